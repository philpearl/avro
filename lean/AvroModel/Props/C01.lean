import AvroModel.Props.C13
import AvroModel.Props.C09
import AvroModel.Props.C07
import AvroModel.Lemmas.EndToEnd
import AvroModel.Lemmas.Crash
import AvroModel.Lemmas.NormSpec
import AvroModel.Lemmas.ReadOk
import AvroModel.Lemmas.GoBudget
import AvroModel.Props.C03
/-!
# C01 — Encode-then-read round trip preserves every record

Three proved layers, composed formally (`file_roundtrip`, `file_value_roundtrip`): records
(`record_roundtrip`: `Codec.Read` of what `Codec.Write` appended, followed by anything, delivers the
written datum's value and leaves exactly the rest), blocks (`C09.refines`: the file is the header and
the frames of a partition of the records) and container (`C07.delivers`: such a file delivers all
records, in order; the destination is zeroed before every record, so a null following a non-null in
the same field reads back as null). The differential end-to-end run (`E2E` harness) exercises the
three layers together on the real code.
-/
namespace Avro.C01
open Avro

variable (env : Env)

/-- one record: decoding what was written yields the value of the written datum, for every codec
the library can build, every value, every continuation of the block (`rest`) -/
theorem record_roundtrip (c : Codec) (s : ASchema) (hcf : CodecFor c s) (n n' m m' : Nat) (g dst : GoVal) (bs bs' rest : Bytes) (v : Value)
    (hw : write env n c g = some bs) (ht : toAvro env (omits env) m c g = some v)
    (he : encode (canonPlan v) s v = some bs') :
    ReadSpec (read env n' c (bs ++ rest) dst) (ofAvro env m' c v dst) rest :=
  C13.write_then_read env c s hcf n n' m m' g dst bs bs' rest v hw ht he

/-- the same fact in the shape `file_roundtrip` asks of a record decoder: at every step budget that
suffices for the record, the written bytes decode exactly to the written datum's value -/
theorem record_exact (c : Codec) (s : ASchema) (hcf : CodecFor c s) (n n' m m' : Nat) (g dst g' : GoVal) (bs bs' rest : Bytes) (v : Value)
    (hw : write env n c g = some bs) (ht : toAvro env (omits env) m c g = some v)
    (he : encode (canonPlan v) s v = some bs') (hf : ofAvro env m' c v dst = .ok g')
    (hnf : read env n' c (bs ++ rest) dst ≠ .fuel) :
    read env n' c (bs ++ rest) dst = .ok (g', rest) := by
  have h := record_roundtrip env c s hcf n n' m m' g dst bs bs' rest v hw ht he
  rw [hf] at h
  rcases h with h | h
  · exact h
  · exact absurd h hnf

/-- `record_exact` with an explicit step budget instead of the hypothesis "did not run out of
budget": every `n' ≥ readBudget c v = Codec.sz c + 2 * Value.sz v + 2` (a function of the codec and
the written datum only) decodes the written bytes exactly, whatever follows them. -/
theorem record_exact_budget (c : Codec) (s : ASchema) (hcf : CodecFor c s) (n n' m m' : Nat) (g dst g' : GoVal) (bs bs' rest : Bytes) (v : Value)
    (hw : write env n c g = some bs) (ht : toAvro env (omits env) m c g = some v)
    (he : encode (canonPlan v) s v = some bs') (hf : ofAvro env m' c v dst = .ok g')
    (hn : readBudget c v ≤ n') :
    read env n' c (bs ++ rest) dst = .ok (g', rest) := by
  have := C13.write_valid env c s hcf n m g bs bs' v hw ht he
  subst this
  exact read_exact env hcf he hn rest hf

/-- a block payload is the concatenation of its records' encodings, so the records of a block decode
one after the other: after the first record the reader stands exactly at the second -/
theorem two_records (c : Codec) (s : ASchema) (hcf : CodecFor c s) (n m : Nat) (p1 p2 : Plan) (v1 v2 : Value) (b1 b2 rest : Bytes)
    (dst g1 : GoVal) (h1 : encode p1 s v1 = some b1) (h2 : encode p2 s v2 = some b2)
    (hf1 : ofAvro env m c v1 dst = .ok g1) :
    (read env n c (b1 ++ (b2 ++ rest)) dst = .ok (g1, b2 ++ rest) ∨ read env n c (b1 ++ (b2 ++ rest)) dst = .fuel) ∧
    ReadSpec (read env n c (b2 ++ rest) dst) (ofAvro env m c v2 dst) rest := by
  constructor
  · have := read_spec env hcf h1 n m (b2 ++ rest) dst
    rw [hf1] at this; exact this
  · exact read_spec env hcf h2 n m rest dst

/-- the block layer (from C09): nothing lost, duplicated, reordered or split; flush drains -/
theorem blocks_partition (bs : Nat) (ops : List EncOp) :
    (specPart bs ops []).1.flatten ++ (specPart bs ops []).2 = encodings ops := by
  simpa using C09.spec_preserves bs ops []

theorem flush_leaves_nothing (cfg : EncCfg) (ops : List EncOp) :
    ∃ w', encRun cfg {} (ops ++ [.flush]) = ({ count := 0, wb := [] }, w', none) :=
  C09.flush_drains cfg ops

/-- **C01, whole files**: for every history of `Encode`/`Flush` calls ended by a `Flush`, every block
size, every compressor undone by the reader's decompressor, every block payload of representable length, every record decoder that decodes each
written record exactly (`record_roundtrip` is that fact for the codecs the library builds), the file
the writer produced is read back as the written records — same number, same order, same values —
and reading succeeds. No hypothesis mentions the file's bytes. -/
theorem file_roundtrip {α ε : Type} (cfg : EncCfg) (ops : List EncOp)
    {X : File.Ext α} {fuel : Nat} {H : File.Header} {sel : File.CodecSel} {rc : File.RecCodec α}
    (hh : File.ValidHeader X fuel cfg.header H sel rc) (hs : H.sync = cfg.sync)
    (hcomp : ∀ x, File.decompress X sel (cfg.compress x) = .ok x)
    (hsmall : ∀ blk ∈ (specPart cfg.blockSize (ops ++ [.flush]) []).1, (cfg.compress blk.flatten).length ≤ File.maxLen)
    (dec : Bytes → α) (hdec : ∀ r ∈ encodings ops, ∀ rest, rc.decode (r ++ rest) = .ok (dec r, rest))
    (hn : (encodings ops).length < fuel) (hn63 : (encodings ops).length < 2 ^ 63)
    (cb : Nat → Option ε) (hcb : ∀ i, cb i = none) :
    ∃ s' w', encRun cfg {} (ops ++ [.flush]) = (s', w', none) ∧ s'.count = 0 ∧ s'.wb = [] ∧
      File.readFile X fuel cb w'.accepted = ⟨(encodings ops).map dec, .ok⟩ :=
  EndToEnd.write_then_read cfg ops hh hs hcomp hsmall dec hdec hn hn63 cb hcb

/-! ### Non-vacuity: a concrete history, written and read by the two models -/

def exCfg : EncCfg := { blockSize := 2, compress := id, sync := C07.exSync, header := C07.exHdr }
def exOps : List EncOp := [.encode [1], .flush, .encode [2], .encode [3], .encode [4]]

example : File.readFile C07.exX 9 (fun _ => (none : Option Unit)) (encRun exCfg {} (exOps ++ [.flush])).2.1.accepted
    = ⟨[1, 2, 3, 4], .ok⟩ := by decide +kernel

/-- the hypotheses of `file_roundtrip` are met by that history -/
example : ∃ s' w', encRun exCfg {} (exOps ++ [.flush]) = (s', w', none) ∧ s'.count = 0 ∧ s'.wb = [] ∧
    File.readFile C07.exX 9 (fun _ => (none : Option Unit)) w'.accepted = ⟨[1, 2, 3, 4], .ok⟩ := by
  have hh := Crash.valid_writerHeader C07.exX [0x22] File.vNull C07.exSync 9 (by decide) (by decide) (by decide) .null
    { decode := fun bs => match bs with | [] => .err | b :: r => .ok (b, r) } (Or.inl ⟨rfl, rfl⟩) rfl
  have := file_roundtrip (ε := Unit) exCfg exOps hh rfl (fun x => rfl)
    (by decide) (fun r => r.headD 0)
    (by intro r hr rest; simp [exOps, encodings] at hr; rcases hr with rfl | rfl | rfl | rfl <;> rfl)
    (by decide) (by decide) (fun _ => none) (fun _ => rfl)
  simpa [exOps, encodings] using this

/-- **C01, whole files, with the writer's header.** `file_roundtrip` for the header the library writes:
`cfg.header` is `mkHeader` of the single metadata block `avro.schema = js`, `avro.codec = name` with the
writer's 16-byte sync marker (`Lemmas/File.lean`; the specification-side reader reads it back as those
entries: `C02.spec_reader_reads_header`). The abstract hypothesis "`cfg.header` is a header the reader
accepts" is replaced by what it takes for that header: the schema JSON builds the record decoder
(`X.build js = some rc`) and `name` is one of `null`/`deflate`/`snappy`, selecting `sel`
(`Crash.CodecName`). The other hypotheses and the conclusion are those of `file_roundtrip`. -/
theorem file_roundtrip_mkHeader {α ε : Type} (cfg : EncCfg) (ops : List EncOp) (js name : Bytes)
    (hhdr : cfg.header = File.mkHeader [[(File.kSchema, js), (File.kCodec, name)]] cfg.sync)
    (hsync : cfg.sync.length = 16) (hjs : js.length ≤ File.maxLen)
    {X : File.Ext α} {fuel : Nat} {sel : File.CodecSel} {rc : File.RecCodec α}
    (hname : Crash.CodecName name sel) (hbuild : X.build js = some rc)
    (hcomp : ∀ x, File.decompress X sel (cfg.compress x) = .ok x)
    (hsmall : ∀ blk ∈ (specPart cfg.blockSize (ops ++ [.flush]) []).1, (cfg.compress blk.flatten).length ≤ File.maxLen)
    (dec : Bytes → α) (hdec : ∀ r ∈ encodings ops, ∀ rest, rc.decode (r ++ rest) = .ok (dec r, rest))
    (hf : 1 < fuel) (hn : (encodings ops).length < fuel) (hn63 : (encodings ops).length < 2 ^ 63)
    (cb : Nat → Option ε) (hcb : ∀ i, cb i = none) :
    ∃ s' w', encRun cfg {} (ops ++ [.flush]) = (s', w', none) ∧ s'.count = 0 ∧ s'.wb = [] ∧
      File.readFile X fuel cb w'.accepted = ⟨(encodings ops).map dec, .ok⟩ := by
  have hh : File.ValidHeader X fuel cfg.header
      { «meta» := File.metaOf [Crash.writerMeta js name], sync := cfg.sync } sel rc := by
    rw [hhdr]
    exact Crash.valid_writerHeader X js name cfg.sync fuel hf hsync hjs sel rc hname hbuild
  exact file_roundtrip cfg ops hh rfl hcomp hsmall dec hdec hn hn63 cb hcb

/-- the hypotheses of `file_roundtrip_mkHeader` are met by the history above (`exCfg.header = C07.exHdr`
is such a header: schema `"`, codec null) -/
example : ∃ s' w', encRun exCfg {} (exOps ++ [.flush]) = (s', w', none) ∧ s'.count = 0 ∧ s'.wb = [] ∧
    File.readFile C07.exX 9 (fun _ => (none : Option Unit)) w'.accepted = ⟨[1, 2, 3, 4], .ok⟩ := by
  have := file_roundtrip_mkHeader (ε := Unit) (X := C07.exX) (fuel := 9) (sel := .null)
    (rc := { decode := fun bs => match bs with | [] => .err | b :: r => .ok (b, r) })
    exCfg exOps [0x22] File.vNull rfl (by decide) (by decide) (Or.inl ⟨rfl, rfl⟩) rfl (fun x => rfl)
    (by decide) (fun r => r.headD 0)
    (by intro r hr rest; simp [exOps, encodings] at hr; rcases hr with rfl | rfl | rfl | rfl <;> rfl)
    (by decide) (by decide) (by decide) (fun _ => none) (fun _ => rfl)
  simpa [exOps, encodings] using this

/-- **C01, values**: a value `g` written with `Codec.Write` and read back with `Codec.Read` into the
zeroed destination (the container reader zeroes it before every record) comes back as
`normCodec … g` — the codec-directed normal form of `Lemmas/RoundTrip.lean`, which identifies nil and
empty maps, replaces an omitted (omitempty-zero, nil, invalid-wrapper) union member by the zero
value, truncates times exactly as the logical type does, and is otherwise the identity
(`normCodec_idem`, `normCodec_plain`) — followed by exactly the rest of the block.
Hypotheses: the codec is one the library builds for schema `s`; the write succeeded; the
specification defines the encoding of the written datum (the value is within the schema type's
range); the side conditions `RTOk` (integers within their Go width, Go maps have distinct keys,
well-formed record targets, representable times — none of them about nil/empty, omitempty or
wrapper validity); and the read budget `n'` is not exhausted. -/
theorem value_roundtrip (c : Codec) (s : ASchema) (hcf : CodecFor c s) (n n' m m' : Nat) (g : GoVal)
    (bs bs' rest : Bytes) (v : Value)
    (hw : write env n c g = some bs) (ht : toAvro env (omits env) m c g = some v)
    (he : encode (canonPlan v) s v = some bs') (hok : RTOk env m' c g)
    (hnf : read env n' c (bs ++ rest) (Codec.zero env c) ≠ .fuel) :
    read env n' c (bs ++ rest) (Codec.zero env c) = .ok (normCodec env m' c g, rest) :=
  record_exact env c s hcf n n' m m' g _ _ bs bs' rest v hw ht he (roundTrip env m' m c g v ht hok) hnf

/-- **C01, values, explicit budget**: `value_roundtrip` for every read budget
`n' ≥ readBudget c v` (`v` the written datum); no hypothesis mentions `.fuel`. -/
theorem value_roundtrip_budget (c : Codec) (s : ASchema) (hcf : CodecFor c s) (n n' m m' : Nat) (g : GoVal)
    (bs bs' rest : Bytes) (v : Value)
    (hw : write env n c g = some bs) (ht : toAvro env (omits env) m c g = some v)
    (he : encode (canonPlan v) s v = some bs') (hok : RTOk env m' c g)
    (hn : readBudget c v ≤ n') :
    read env n' c (bs ++ rest) (Codec.zero env c) = .ok (normCodec env m' c g, rest) :=
  record_exact_budget env c s hcf n n' m m' g _ _ bs bs' rest v hw ht he (roundTrip env m' m c g v ht hok) hn

/-- the same with a budget computed from the written Go value alone:
`goBudget c g = Codec.sz c + 2 * ((Codec.sz c + 1) * (GoVal.sz g + 1)) + 2` -/
theorem value_roundtrip_go (c : Codec) (s : ASchema) (hcf : CodecFor c s) (n n' m m' : Nat) (g : GoVal)
    (bs bs' rest : Bytes) (v : Value)
    (hw : write env n c g = some bs) (ht : toAvro env (omits env) m c g = some v)
    (he : encode (canonPlan v) s v = some bs') (hok : RTOk env m' c g)
    (hn : goBudget c g ≤ n') :
    read env n' c (bs ++ rest) (Codec.zero env c) = .ok (normCodec env m' c g, rest) :=
  value_roundtrip_budget env c s hcf n n' m m' g bs bs' rest v hw ht he hok
    (Nat.le_trans (readBudget_le_goBudget env _ ht) hn)

/-! non-vacuity: the codec the library builds for `struct { M map[string]int64; P *string; Q *[]int32 }` with a one-entry map, a
non-nil string pointer and a nil slice pointer (which reads back as a pointer to the empty slice) -/

def exCodec : Codec :=
  .record [.map true [] [], .ptr none, .ptr none]
    [.map (.int 64 false) false, .unionOne (.pointer (.string false)) 1, .pointer (.array (.int 32 false) false)]
    [some 0, some 1, some 2]
def exSchema : ASchema := .record ["M", "P", "Q"] [.map .long, .union [.null, .string], .array .int]
def exVal : GoVal := .struct [.map false [[97]] [.int 7], .ptr (some (.str [104, 105])), .ptr none]
def exDatum : Value := .record [.map [[97]] [.int 7], .union 1 (.bytes [104, 105]), .array []]
def exBytes : Bytes := [2, 2, 97, 14, 0, 2, 4, 104, 105, 0]

private def isFuel {α : Type} : Outcome α → Bool | .fuel => true | _ => false
private theorem ne_fuel_of {α : Type} {o : Outcome α} (h : isFuel o = false) : o ≠ .fuel := by
  intro e; subst e; simp [isFuel] at h

private theorem exCodecFor : CodecFor exCodec exSchema :=
  .record (.cons (.map .intL) (.cons (.unionOne1 (.pointer .string)) (.cons (.pointer (.array .intI)) .nil))) rfl
theorem exVal_write : write toyEnv 10 exCodec exVal = some exBytes := by decide +kernel
theorem exVal_toAvro : toAvro toyEnv (omits toyEnv) 10 exCodec exVal = some exDatum := rfl
private theorem exDatum_encode : encode (canonPlan exDatum) exSchema exDatum = some exBytes := by decide +kernel
theorem exDatum_budget : readBudget exCodec exDatum = 27 := by decide +kernel
theorem exRead_ne_fuel : read toyEnv 10 exCodec (exBytes ++ [255]) (Codec.zero toyEnv exCodec) ≠ .fuel :=
  ne_fuel_of (by decide +kernel)
/-- clause by clause: the record's three targets, then map / union member / nil pointer. (`simp [RTOk]` at a
numeral budget unfolds `RTOk` under the `∃ g` of `FieldsOk` down to budget 0 before it looks up `fs[i]?`.) -/
theorem exVal_ok (n : Nat) : RTOk toyEnv (n + 4) exCodec exVal :=
  ⟨by decide, rfl, ⟨_, rfl, by decide, rfl, List.forall_mem_cons.mpr ⟨show inRange 64 7 by decide, nofun⟩⟩,
   by decide, rfl, ⟨_, rfl, by decide, fun _ => trivial⟩,
   by decide, rfl, ⟨_, rfl, show 0 < n + 2 by omega⟩, trivial⟩
private theorem exVal_norm : normCodec toyEnv 5 exCodec exVal
    = .struct [.map false [[97]] [.int 7], .ptr (some (.str [104, 105])), .ptr (some (.slice []))] := rfl

example : read toyEnv 10 exCodec (exBytes ++ [255]) (Codec.zero toyEnv exCodec)
    = .ok (.struct [.map false [[97]] [.int 7], .ptr (some (.str [104, 105])), .ptr (some (.slice []))], [255]) := by
  rw [← exVal_norm]
  exact value_roundtrip toyEnv exCodec exSchema exCodecFor 10 10 10 5 exVal exBytes exBytes [255] exDatum
    exVal_write exVal_toAvro exDatum_encode (exVal_ok 1) exRead_ne_fuel

/-- the same through `value_roundtrip_budget`: `readBudget exCodec exDatum = 9 + 2 * 8 + 2 = 27`, and no
evaluation of `read` is needed to discharge a hypothesis -/
example : readBudget exCodec exDatum = 27 := exDatum_budget

example (rest : Bytes) : read toyEnv 27 exCodec (exBytes ++ rest) (Codec.zero toyEnv exCodec)
    = .ok (.struct [.map false [[97]] [.int 7], .ptr (some (.str [104, 105])), .ptr (some (.slice []))], rest) := by
  rw [← exVal_norm]
  exact value_roundtrip_budget toyEnv exCodec exSchema exCodecFor 10 27 10 5 exVal exBytes exBytes rest exDatum
    exVal_write exVal_toAvro exDatum_encode (exVal_ok 1) (Nat.le_of_eq exDatum_budget)

/-- `normCodec` is a normal form (1): normalising twice is normalising once -/
theorem norm_idempotent (h : EnvLaws env) (n : Nat) (c : Codec) (g : GoVal) (hok : RTOk env n c g) :
    normCodec env n c (normCodec env n c g) = normCodec env n c g :=
  normCodec_idem env h n c g hok

/-- `normCodec` is a normal form (2): it is the identity on plain values (see `Plain`), so a plain
value is read back exactly as it was written -/
theorem value_roundtrip_exact (h : EnvLaws env) (c : Codec) (s : ASchema) (hcf : CodecFor c s) (n n' m m' : Nat)
    (g : GoVal) (bs bs' rest : Bytes) (v : Value)
    (hw : write env n c g = some bs) (ht : toAvro env (omits env) m c g = some v)
    (he : encode (canonPlan v) s v = some bs') (hok : RTOk env m' c g) (hp : Plain env m' c g)
    (hnf : read env n' c (bs ++ rest) (Codec.zero env c) ≠ .fuel) :
    read env n' c (bs ++ rest) (Codec.zero env c) = .ok (g, rest) := by
  have := value_roundtrip env c s hcf n n' m m' g bs bs' rest v hw ht he hok hnf
  rwa [normCodec_plain env h m' c g hp] at this

theorem value_roundtrip_exact_budget (h : EnvLaws env) (c : Codec) (s : ASchema) (hcf : CodecFor c s) (n n' m m' : Nat)
    (g : GoVal) (bs bs' rest : Bytes) (v : Value)
    (hw : write env n c g = some bs) (ht : toAvro env (omits env) m c g = some v)
    (he : encode (canonPlan v) s v = some bs') (hok : RTOk env m' c g) (hp : Plain env m' c g)
    (hn : readBudget c v ≤ n') :
    read env n' c (bs ++ rest) (Codec.zero env c) = .ok (g, rest) := by
  have := value_roundtrip_budget env c s hcf n n' m m' g bs bs' rest v hw ht he hok hn
  rwa [normCodec_plain env h m' c g hp] at this

/-- **C01 against the documented normalisations**: for a Go type `T` of the fragment of
`normSpec_agrees`, the codec `c` of `T` and a well-typed value `g`, the value `r` read back from what
was written for `g` equals `g` up to the documented normalisations and the recorded deviations
D27 / D30 / D32: `normSpec T r = normSpecD 7 T g`. -/
theorem value_roundtrip_spec (h : EnvLaws env) (T : GoType) (N M k : Nat) (c : Codec) (s : ASchema)
    (hcf : CodecFor c s) (n n' m m' : Nat) (g : GoVal) (bs bs' rest : Bytes) (v : Value)
    (hc : fieldCodec N T false = some c) (hty : Typed M T g) (hN : N ≤ m') (hk : N ≤ k)
    (hw : write env n c g = some bs) (ht : toAvro env (omits env) m c g = some v)
    (he : encode (canonPlan v) s v = some bs') (hok : RTOk env m' c g)
    (hnf : read env n' c (bs ++ rest) (Codec.zero env c) ≠ .fuel) :
    ∃ r, read env n' c (bs ++ rest) (Codec.zero env c) = .ok (r, rest) ∧
      normSpec k T false r = normSpecD 7 k T false g :=
  ⟨_, value_roundtrip env c s hcf n n' m m' g bs bs' rest v hw ht he hok hnf,
    normSpec_agrees env h N M m' k T false c g hc hty hN hk⟩

theorem value_roundtrip_spec_budget (h : EnvLaws env) (T : GoType) (N M k : Nat) (c : Codec) (s : ASchema)
    (hcf : CodecFor c s) (n n' m m' : Nat) (g : GoVal) (bs bs' rest : Bytes) (v : Value)
    (hc : fieldCodec N T false = some c) (hty : Typed M T g) (hN : N ≤ m') (hk : N ≤ k)
    (hw : write env n c g = some bs) (ht : toAvro env (omits env) m c g = some v)
    (he : encode (canonPlan v) s v = some bs') (hok : RTOk env m' c g)
    (hn : readBudget c v ≤ n') :
    ∃ r, read env n' c (bs ++ rest) (Codec.zero env c) = .ok (r, rest) ∧
      normSpec k T false r = normSpecD 7 k T false g :=
  ⟨_, value_roundtrip_budget env c s hcf n n' m m' g bs bs' rest v hw ht he hok hn,
    normSpec_agrees env h N M m' k T false c g hc hty hN hk⟩

/-! non-vacuity of the three: the example value is `RTOk`; with `Q` pointing to an empty slice it is
also `Plain`; the example codec is the codec of `struct{M map[string]int64; P *string; Q *[]int32}` -/

def exType : GoType :=
  .struct "Ex" "main" [.mk "M" true "" "" (.map .string (.int 64)), .mk "P" true "" "" (.ptr .string),
    .mk "Q" true "" "" (.ptr (.slice (.int 32)))]
def exValPlain : GoVal := .struct [.map false [[97]] [.int 7], .ptr (some (.str [104, 105])), .ptr (some (.slice []))]

example : builtCodec exType = .ok exCodec := by rfl
theorem exType_field : fieldCodec 8 exType false = some exCodec := by rfl
example : fieldCodec 8 exType false = some exCodec := exType_field

example : normCodec toyEnv 5 exCodec (normCodec toyEnv 5 exCodec exVal) = normCodec toyEnv 5 exCodec exVal :=
  norm_idempotent toyEnv toyEnv_laws 5 exCodec exVal (exVal_ok 1)

private theorem exValPlain_plain : Plain toyEnv 5 exCodec exValPlain :=
  ⟨⟨⟨_, rfl, rfl, List.forall_mem_cons.mpr ⟨trivial, nofun⟩⟩, ⟨_, rfl, trivial⟩, ⟨_, rfl, nofun⟩, trivial⟩, rfl,
   fun j hj => match j with
    | 0 | 1 | 2 => absurd (by decide) hj
    | _ + 3 => rfl⟩
example : Plain toyEnv 5 exCodec exValPlain := exValPlain_plain

theorem exVal_typed : Typed 5 exType exVal :=
  ⟨by decide, ⟨rfl, List.forall_mem_cons.mpr ⟨trivial, nofun⟩⟩, trivial, trivial, trivial⟩
example : Typed 5 exType exVal := exVal_typed

private theorem exValPlain_write : write toyEnv 10 exCodec exValPlain = some exBytes := by decide +kernel
private theorem exValPlain_toAvro : toAvro toyEnv (omits toyEnv) 10 exCodec exValPlain = some exDatum := rfl
private theorem exValPlain_ok (n : Nat) : RTOk toyEnv (n + 4) exCodec exValPlain :=
  ⟨by decide, rfl, ⟨_, rfl, by decide, rfl, List.forall_mem_cons.mpr ⟨show inRange 64 7 by decide, nofun⟩⟩,
   by decide, rfl, ⟨_, rfl, by decide, fun _ => trivial⟩,
   by decide, rfl, ⟨_, rfl, by decide, nofun⟩, trivial⟩

example : ∃ r, read toyEnv 10 exCodec (exBytes ++ [255]) (Codec.zero toyEnv exCodec) = .ok (r, [255]) ∧
    normSpec 8 exType false r = normSpecD 7 8 exType false exVal :=
  value_roundtrip_spec toyEnv toyEnv_laws exType 8 5 8 exCodec exSchema exCodecFor 10 10 10 8 exVal exBytes exBytes
    [255] exDatum exType_field exVal_typed (Nat.le_refl _) (Nat.le_refl _) exVal_write exVal_toAvro exDatum_encode (exVal_ok 4)
    exRead_ne_fuel

/-- a call history of the `Encoder` API at the level of Go values -/
inductive GoOp where
  | encode (g : GoVal)
  | flush

/-- the values passed to `Encode`, in call order -/
def GoOp.values : List GoOp → List GoVal
  | [] => []
  | .encode g :: ops => g :: GoOp.values ops
  | .flush :: ops => GoOp.values ops

/-- the same history at the level of bytes: `Encode(g)` appends what `Codec.Write` writes for `g` -/
def writtenOps (n : Nat) (c : Codec) : List GoOp → List EncOp
  | [] => []
  | .encode g :: ops => .encode ((write env n c g).getD []) :: writtenOps n c ops
  | .flush :: ops => .flush :: writtenOps n c ops

theorem encodings_writtenOps (n : Nat) (c : Codec) : ∀ gops : List GoOp,
    encodings (writtenOps env n c gops) = (GoOp.values gops).map (fun g => (write env n c g).getD [])
  | [] => rfl
  | .encode g :: ops => by simp [writtenOps, encodings, GoOp.values, encodings_writtenOps n c ops]
  | .flush :: ops => by simp [writtenOps, encodings, GoOp.values, encodings_writtenOps n c ops]

/-- **C01, whole files, values.** `c` is a codec the library builds for schema `s`; `gops` is ANY history
of `Encode(g)` / `Flush` calls on Go values, closed by a final `Flush`; the file is what the encoder
model writes for it (any block size, any compressor the reader's decompressor undoes, sync marker
equal to the header's). Every written value `g` is well-typed for `c` (`write` succeeds), denotes a
datum `v` (`toAvro`) that the specification can encode under `s` (the value is within the schema
type's range) and satisfies the side conditions `RTOk` of `value_roundtrip`. The reader decodes
records with `Codec.Read` into a zeroed destination with ONE fixed step budget `N`, at least
`readBudget c v` for every written datum. Then `readFile` succeeds and delivers, in call order,
exactly `normCodec … g` for every written `g` (see `value_roundtrip` for what `normCodec` is).
No hypothesis mentions the file's bytes, `.fuel` or the decodability of anything; `hsmall`, `hn`,
`hn63` are the representability limits of `file_roundtrip` (block payload length, number of records). -/
theorem file_value_roundtrip {ε : Type} (cfg : EncCfg) (c : Codec) (s : ASchema) (hcf : CodecFor c s)
    (n m m' N : Nat) (gops : List GoOp)
    (hval : ∀ g ∈ GoOp.values gops, ∃ bs v bs', write env n c g = some bs ∧
      toAvro env (omits env) m c g = some v ∧ encode (canonPlan v) s v = some bs' ∧ RTOk env m' c g ∧
      readBudget c v ≤ N)
    {X : File.Ext GoVal} {fuel : Nat} {H : File.Header} {sel : File.CodecSel}
    (hh : File.ValidHeader X fuel cfg.header H sel (C03.recDecoder env N c)) (hs : H.sync = cfg.sync)
    (hcomp : ∀ x, File.decompress X sel (cfg.compress x) = .ok x)
    (hsmall : ∀ blk ∈ (specPart cfg.blockSize (writtenOps env n c gops ++ [.flush]) []).1,
      (cfg.compress blk.flatten).length ≤ File.maxLen)
    (hn : (GoOp.values gops).length < fuel) (hn63 : (GoOp.values gops).length < 2 ^ 63)
    (cb : Nat → Option ε) (hcb : ∀ i, cb i = none) :
    ∃ s' w', encRun cfg {} (writtenOps env n c gops ++ [.flush]) = (s', w', none) ∧ s'.count = 0 ∧ s'.wb = [] ∧
      File.readFile X fuel cb w'.accepted = ⟨(GoOp.values gops).map (normCodec env m' c), .ok⟩ := by
  have key : ∀ g ∈ GoOp.values gops, ∀ rest,
      (C03.recDecoder env N c).decode ((write env n c g).getD [] ++ rest) = .ok (normCodec env m' c g, rest) := by
    intro g hg rest
    obtain ⟨bs, v, bs', hw, ht, he, hok, hb⟩ := hval g hg
    show read env N c _ _ = _
    rw [hw]
    exact value_roundtrip_budget env c s hcf n N m m' g bs bs' rest v hw ht he hok hb
  -- the value is a function of the encoding: what the decoder yields for it (`.unit` stands in where it
  -- yields nothing, which `key` excludes for every written record)
  let dec : Bytes → GoVal := fun r => match (C03.recDecoder env N c).decode r with | .ok (v, _) => v | _ => .unit
  have hdec : ∀ g ∈ GoOp.values gops, dec ((write env n c g).getD []) = normCodec env m' c g := by
    intro g hg
    have := key g hg []
    rw [List.append_nil] at this
    simp only [dec, this]
  have := EndToEnd.write_then_read (ε := ε) cfg (writtenOps env n c gops) hh hs hcomp hsmall dec
    (by
      rw [encodings_writtenOps]
      intro r hr rest
      obtain ⟨g, hg, rfl⟩ := List.mem_map.mp hr
      rw [hdec g hg]; exact key g hg rest)
    (by rw [encodings_writtenOps, List.length_map]; exact hn) (by rw [encodings_writtenOps, List.length_map]; exact hn63) cb hcb
  have hm : (GoOp.values gops).map (dec ∘ fun g => (write env n c g).getD []) = (GoOp.values gops).map (normCodec env m' c) :=
    List.map_congr_left fun g hg => hdec g hg
  rwa [encodings_writtenOps, List.map_map, hm] at this

/-- `file_value_roundtrip` with the reader's budget bounded from the written Go values alone
(`goBudget`): every hypothesis is about the Go values, the codec, the configuration or the header. -/
theorem file_value_roundtrip_go {ε : Type} (cfg : EncCfg) (c : Codec) (s : ASchema) (hcf : CodecFor c s)
    (n m m' N : Nat) (gops : List GoOp)
    (hval : ∀ g ∈ GoOp.values gops, ∃ bs v bs', write env n c g = some bs ∧
      toAvro env (omits env) m c g = some v ∧ encode (canonPlan v) s v = some bs' ∧ RTOk env m' c g)
    (hN : ∀ g ∈ GoOp.values gops, goBudget c g ≤ N)
    {X : File.Ext GoVal} {fuel : Nat} {H : File.Header} {sel : File.CodecSel}
    (hh : File.ValidHeader X fuel cfg.header H sel (C03.recDecoder env N c)) (hs : H.sync = cfg.sync)
    (hcomp : ∀ x, File.decompress X sel (cfg.compress x) = .ok x)
    (hsmall : ∀ blk ∈ (specPart cfg.blockSize (writtenOps env n c gops ++ [.flush]) []).1,
      (cfg.compress blk.flatten).length ≤ File.maxLen)
    (hn : (GoOp.values gops).length < fuel) (hn63 : (GoOp.values gops).length < 2 ^ 63)
    (cb : Nat → Option ε) (hcb : ∀ i, cb i = none) :
    ∃ s' w', encRun cfg {} (writtenOps env n c gops ++ [.flush]) = (s', w', none) ∧ s'.count = 0 ∧ s'.wb = [] ∧
      File.readFile X fuel cb w'.accepted = ⟨(GoOp.values gops).map (normCodec env m' c), .ok⟩ :=
  file_value_roundtrip env cfg c s hcf n m m' N gops
    (fun g hg => by
      obtain ⟨bs, v, bs', hw, ht, he, hok⟩ := hval g hg
      exact ⟨bs, v, bs', hw, ht, he, hok, Nat.le_trans (readBudget_le_goBudget env _ ht) (hN g hg)⟩)
    hh hs hcomp hsmall hn hn63 cb hcb

/-! Non-vacuity of `file_value_roundtrip`: three struct values (one with a nil `*[]int32`, which comes
back as a pointer to the empty slice) written with a `Flush` in between, block size 12, read back with
the single record budget `27 = readBudget exCodec exDatum`. -/

def exGops : List GoOp := [.encode exVal, .flush, .encode exValPlain, .encode exVal]
def exHdrV : Bytes := File.mkHeader [[(File.kSchema, [0x22]), (File.kCodec, File.vNull)]] C07.exSync
def exCfgV : EncCfg := { blockSize := 12, compress := id, sync := C07.exSync, header := exHdrV }
def exXV : File.Ext GoVal :=
  { inflate := fun c => some c, unsnappy := fun c => some c, crc := fun _ => 0,
    build := fun _ => some (C03.recDecoder toyEnv 27 exCodec) }

/-- `exHdrV` is the writer's header (`Crash.valid_writerHeader`), whatever the record decoder built -/
private theorem exHdrV_valid (X : File.Ext GoVal) (rc : File.RecCodec GoVal) (hb : X.build [0x22] = some rc) :
    File.ValidHeader X 9 exCfgV.header
      { «meta» := File.metaOf [Crash.writerMeta [0x22] File.vNull], sync := C07.exSync } .null rc :=
  Crash.valid_writerHeader X [0x22] File.vNull C07.exSync 9 (by decide) (by decide) (by decide) .null rc
    (Or.inl ⟨rfl, rfl⟩) hb

example : ∃ s' w', encRun exCfgV {} (writtenOps toyEnv 10 exCodec exGops ++ [.flush]) = (s', w', none) ∧ s'.count = 0 ∧ s'.wb = [] ∧
    File.readFile exXV 9 (fun _ => (none : Option Unit)) w'.accepted =
      ⟨[exVal, exValPlain, exVal].map (normCodec toyEnv 5 exCodec), .ok⟩ :=
  file_value_roundtrip (ε := Unit) toyEnv exCfgV exCodec exSchema exCodecFor 10 10 5 27 exGops
    (fun g hg => by
      simp only [exGops, GoOp.values, List.mem_cons, List.not_mem_nil, or_false] at hg
      rcases hg with rfl | rfl | rfl
      · exact ⟨_, _, _, exVal_write, exVal_toAvro, exDatum_encode, exVal_ok 1, Nat.le_of_eq exDatum_budget⟩
      · exact ⟨_, _, _, exValPlain_write, exValPlain_toAvro, exDatum_encode, exValPlain_ok 1, Nat.le_of_eq exDatum_budget⟩
      · exact ⟨_, _, _, exVal_write, exVal_toAvro, exDatum_encode, exVal_ok 1, Nat.le_of_eq exDatum_budget⟩)
    (exHdrV_valid exXV _ rfl) rfl (fun x => rfl) (by decide +kernel) (by decide) (by decide) (fun _ => none) (fun _ => rfl)

/-! Non-vacuity of `file_value_roundtrip_go` (and of `goBudget`): the same history, the reader's budget
`211` computed from the Go values alone. -/

example : goBudget exCodec exVal = 171 ∧ goBudget exCodec exValPlain = 211 := by decide +kernel

def exXG : File.Ext GoVal :=
  { inflate := fun c => some c, unsnappy := fun c => some c, crc := fun _ => 0,
    build := fun _ => some (C03.recDecoder toyEnv 211 exCodec) }

example : ∃ s' w', encRun exCfgV {} (writtenOps toyEnv 10 exCodec exGops ++ [.flush]) = (s', w', none) ∧ s'.count = 0 ∧ s'.wb = [] ∧
    File.readFile exXG 9 (fun _ => (none : Option Unit)) w'.accepted =
      ⟨[exVal, exValPlain, exVal].map (normCodec toyEnv 5 exCodec), .ok⟩ :=
  file_value_roundtrip_go (ε := Unit) toyEnv exCfgV exCodec exSchema exCodecFor 10 10 5 211 exGops
    (fun g hg => by
      simp only [exGops, GoOp.values, List.mem_cons, List.not_mem_nil, or_false] at hg
      rcases hg with rfl | rfl | rfl
      · exact ⟨_, _, _, exVal_write, exVal_toAvro, exDatum_encode, exVal_ok 1⟩
      · exact ⟨_, _, _, exValPlain_write, exValPlain_toAvro, exDatum_encode, exValPlain_ok 1⟩
      · exact ⟨_, _, _, exVal_write, exVal_toAvro, exDatum_encode, exVal_ok 1⟩)
    (fun g hg => by
      simp only [exGops, GoOp.values, List.mem_cons, List.not_mem_nil, or_false] at hg
      rcases hg with rfl | rfl | rfl <;> decide +kernel)
    (exHdrV_valid exXG _ rfl) rfl (fun x => rfl) (by decide +kernel) (by decide) (by decide) (fun _ => none) (fun _ => rfl)

/-- non-vacuity of `value_roundtrip_exact_budget` / `value_roundtrip_spec_budget` -/
example (rest : Bytes) : read toyEnv 27 exCodec (exBytes ++ rest) (Codec.zero toyEnv exCodec) = .ok (exValPlain, rest) :=
  value_roundtrip_exact_budget toyEnv toyEnv_laws exCodec exSchema exCodecFor 10 27 10 5 exValPlain exBytes exBytes rest
    exDatum exValPlain_write exValPlain_toAvro exDatum_encode (exValPlain_ok 1) exValPlain_plain (Nat.le_of_eq exDatum_budget)

example (rest : Bytes) : ∃ r, read toyEnv 27 exCodec (exBytes ++ rest) (Codec.zero toyEnv exCodec) = .ok (r, rest) ∧
    normSpec 8 exType false r = normSpecD 7 8 exType false exVal :=
  value_roundtrip_spec_budget toyEnv toyEnv_laws exType 8 5 8 exCodec exSchema exCodecFor 10 27 10 8 exVal exBytes exBytes
    rest exDatum exType_field exVal_typed (Nat.le_refl _) (Nat.le_refl _) exVal_write exVal_toAvro exDatum_encode (exVal_ok 4)
    (Nat.le_of_eq exDatum_budget)

end Avro.C01
