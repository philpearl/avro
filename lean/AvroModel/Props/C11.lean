import AvroModel.Lemmas.Typing
import AvroModel.Alloc
import AvroModel.Generated.AllocFacts
/-!
# C11 — Decoded values are fully visible to the garbage collector   (PARTIAL BY NATURE)

The collector itself is not modelled.  Its contract is taken as: *an object survives iff it is reachable
through words that the type it was allocated with marks as pointers*.  Under that contract GC-visibility of
decoded data is a static property of codec trees, and that is what is proved here, over a small typed-allocation
model:

* `AllocShape` — how an allocation looks to the collector (n scalar bytes without pointers, one pointer word,
  string / slice header with the pointer in the first word, a struct allocated with its own `reflect.Type`, …);
* `newShape c` — what `c.New` allocates (int.go:37, float.go:25, bool.go:26, bytes.go:40, string.go:39, fixed.go:34,
  array.go:99, map.go:104, pointer.go:22, record.go:48, union.go:38/98/156, time/time.go:72…, null/null.go:63…);
* `expectShape c` — what `c.Read` assumes `p` points at (the casts in each Read method);
* `shapeOf T` — how a value of Go type `T` looks to the collector.

Not modelled (searched by the GC-stress harness `harness/gc.go`): the collector, the compiler's escape analysis and
stack maps, `reflect.MakeMap`/`mapassign`/`typedslicecopy` internals, the runtime's map iterator beyond the size and
pointer prefix of the struct the library overlays on it, concurrency of marking with decoding.
-/
namespace Avro.C11
open Avro Avro.Alloc

mutual
/-- **`New` and `Read` agree.** For every codec tree, what `New` allocates is what `Read` casts its argument to
(on the pinned tree `MapCodec.New` returned the runtime map header while `Read` assumed a pointer to a map
variable: see `pinned_map_counterfactual`). -/
theorem new_matches_read : (c : Codec) → newShape c = expectShape c
  | .null | .bool _ | .int _ _ | .float _ | .double _ | .f32double _ | .bytes _ | .string _ | .fixed _
  | .array _ _ | .map _ _ | .pointer _ | .record _ _ _ | .unionNullString _ _ | .timeString | .timeLong _ | .date
  | .nullw _ | .custom _ => by simp [newShape, expectShape]
  | .union cs => by simp only [newShape, expectShape]; exact new_matches_readU cs
  | .unionOne c _ => by simp only [newShape, expectShape]; exact new_matches_read c
theorem new_matches_readU : (cs : List Codec) → newShapeU cs = expectShapeU cs
  | [] => rfl
  | c :: cs => by
    cases c
    case null => simp only [newShapeU, expectShapeU]; exact new_matches_readU cs
    all_goals (simp only [newShapeU, expectShapeU]; exact new_matches_read _)
end

theorem shapeOf_of_strip {T K : GoType} (h : T.strip = K) : shapeOf T = shapeOf K := by
  subst h; cases T <;> rfl

mutual
/-- **Allocations are typed like the Go type.** If `c` is well-typed against `T` and allocates, `c.New` allocates
an object with the collector-visible shape of `T` — in particular with pointers exactly in `T`'s pointer words. -/
theorem new_matches_type : (c : Codec) → (T : GoType) → wt c T = true → allocs c = true → newShape c = shapeOf T
  | .null, _, _, ha => by simp [allocs] at ha
  | .bool _, T, hw, _ | .int _ _, T, hw, _ | .float _, T, hw, _ | .double _, T, hw, _ | .f32double _, T, hw, _
  | .bytes _, T, hw, _ | .string _, T, hw, _ | .unionNullString _ _, T, hw, _ | .timeString, T, hw, _
  | .timeLong _, T, hw, _ | .date, T, hw, _ => by rw [shapeOf_of_strip (wt_leaf rfl hw)]; rfl
  | .fixed n, T, hw, _ => by
    obtain ⟨m, h, rfl⟩ := wt_fixed hw
    rw [shapeOf_of_strip h]; simp [newShape, shapeOf, isU8]
  | .array _ _, T, hw, _ => by obtain ⟨e, h, -⟩ := wt_array hw; rw [shapeOf_of_strip h]; rfl
  | .map _ _, T, hw, _ => by obtain ⟨k, e, h, -⟩ := wt_map hw; rw [shapeOf_of_strip h]; rfl
  | .pointer _, T, hw, _ => by obtain ⟨e, h, -⟩ := wt_pointer hw; rw [shapeOf_of_strip h]; rfl
  | .record _ _ _, T, hw, _ => by obtain ⟨nm, pk, fs, h, -⟩ := wt_record hw; rw [shapeOf_of_strip h]; rfl
  | .union cs, T, hw, ha => new_matches_typeU cs T hw ha
  | .unionOne c _, T, hw, ha => new_matches_type c T hw ha
  | .nullw k, T, hw, _ => by
    obtain ⟨k', h, rfl | ⟨rfl, rfl⟩ | ⟨rfl, rfl⟩⟩ := wt_nullw hw <;> rw [shapeOf_of_strip h] <;> rfl
  | .custom _, _, hw, _ => by simp [wt] at hw
theorem new_matches_typeU : (cs : List Codec) → (T : GoType) → wtAll cs T = true → allocsU cs = true →
    newShapeU cs = shapeOf T
  | [], _, _, ha => by simp [allocsU] at ha
  | c :: cs, T, hw, ha => by
    simp only [wtAll, Bool.and_eq_true] at hw
    cases c
    case null => simp only [allocsU] at ha; simp only [newShapeU]; exact new_matches_typeU cs T hw.2 ha
    all_goals (simp only [allocsU] at ha; simp only [newShapeU]; exact new_matches_type _ T hw.1 ha)
end

mutual
theorem wt_allocTyped : (c : Codec) → (T : GoType) → wt c T = true → allocOK c = true → allocTyped c T = true
  | .pointer c, T, hw, hal => by
    obtain ⟨e, h, hw⟩ := wt_pointer hw
    simp only [allocOK, Bool.and_eq_true] at hal
    simp only [allocTyped, h, Bool.and_eq_true, beq_iff_eq]
    exact ⟨⟨new_matches_type c e hw hal.1, new_matches_read c⟩, wt_allocTyped c e hw hal.2⟩
  | .map val _, T, hw, hal => by
    obtain ⟨k, e, h, -, hw⟩ := wt_map hw
    simp only [allocOK, Bool.and_eq_true] at hal
    simp only [allocTyped, h, Bool.and_eq_true, beq_iff_eq]
    exact ⟨⟨new_matches_type val e hw hal.1, new_matches_read val⟩, wt_allocTyped val e hw hal.2⟩
  | .array item _, T, hw, hal => by
    obtain ⟨e, h, -, hw⟩ := wt_array hw
    simp only [allocOK, Bool.and_eq_true] at hal
    simp only [allocTyped, h, Bool.and_eq_true, beq_iff_eq]
    exact ⟨by rw [← new_matches_read]; exact new_matches_type item e hw hal.1, wt_allocTyped item e hw hal.2⟩
  | .record _ cs ts, T, hw, hal => by
    obtain ⟨nm, pk, fs, h, -, hw⟩ := wt_record hw
    simp only [allocOK] at hal
    simp only [allocTyped, h]
    exact wt_allocTypedFields cs ts fs hw hal
  | .union cs, T, hw, hal => by
    simp only [wt] at hw; simp only [allocOK] at hal
    simp only [allocTyped]; exact wt_allocTypedAll cs T hw hal
  | .unionOne c _, T, hw, hal => by
    simp only [wt] at hw; simp only [allocOK] at hal
    simp only [allocTyped]; exact wt_allocTyped c T hw hal
  | .null, _, _, _ | .bool _, _, _, _ | .int _ _, _, _, _ | .float _, _, _, _ | .double _, _, _, _
  | .f32double _, _, _, _ | .bytes _, _, _, _ | .string _, _, _, _ | .fixed _, _, _, _
  | .unionNullString _ _, _, _, _ | .timeString, _, _, _ | .timeLong _, _, _, _ | .date, _, _, _
  | .nullw _, _, _, _ | .custom _, _, _, _ => by simp [allocTyped]
theorem wt_allocTypedFields : (cs : List Codec) → (ts : List (Option Nat)) → (fs : List GoField) →
    wtFields cs ts fs = true → allocOKFields cs ts = true → allocTypedFields cs ts fs = true
  | [], _, _, _, _ => by simp [allocTypedFields]
  | _ :: _, [], _, _, _ => by simp [allocTypedFields]
  | _ :: cs, none :: ts, fs, hw, hal => by
    simp only [wtFields] at hw; simp only [allocOKFields] at hal
    simp only [allocTypedFields]; exact wt_allocTypedFields cs ts fs hw hal
  | c :: cs, some i :: ts, fs, hw, hal => by
    simp only [wtFields, Bool.and_eq_true] at hw; simp only [allocOKFields, Bool.and_eq_true] at hal
    simp only [allocTypedFields, Bool.and_eq_true]
    refine ⟨?_, wt_allocTypedFields cs ts fs hw.2 hal.2⟩
    have h1 := hw.1
    split at h1
    · rename_i f hf; simp only [hf]; exact wt_allocTyped c _ h1 hal.1
    · cases h1
theorem wt_allocTypedAll : (cs : List Codec) → (T : GoType) → wtAll cs T = true → allocOKAll cs = true →
    allocTypedAll cs T = true
  | [], _, _, _ => by simp [allocTypedAll]
  | c :: cs, T, hw, hal => by
    simp only [wtAll, Bool.and_eq_true] at hw; simp only [allocOKAll, Bool.and_eq_true] at hal
    simp only [allocTypedAll, Bool.and_eq_true]
    exact ⟨wt_allocTyped c T hw.1 hal.1, wt_allocTypedAll cs T hw.2 hal.2⟩
end

/-- **C11, static core.** For every codec tree that `buildCodec` produces for a typed target: at every pointer-target,
map-value and array-item position the child's allocation has the shape of the static element type and equals what the child's `Read` assumes. Under
the collector's contract every object the decoder allocates is therefore reachable from the destination through
pointer-typed words only, and is scanned with the bitmap of the type it is used as. -/
theorem alloc_typed (reg : Reg) (hlib : reg.lib = true) (hreg : ∀ id, reg.custom id = none) (n : Nat) (s : Schema)
    (T : GoType) (oe : Bool) (c : Codec) (hwf : T.wf = true) (hb : buildCodec reg n s (some T) oe = .ok c)
    (hal : allocOK c = true) : allocTyped c T = true :=
  wt_allocTyped c T ((buildWtAt reg hreg hlib n).build s T oe c hb hwf hal) hal

theorem pointer_words (sh : AllocShape) (bm : List Bool) (h : sh.bitmap = some bm) (hp : bm.any id = true) :
    bm.head? = some true := by
  cases sh <;> simp [AllocShape.bitmap] at h <;> subst h <;> simp_all

/-- Non-vacuity: `*map[string][]*int64` under `map<array<long>>`: the pointer target is a map variable (one
pointer word), map values are slice headers, array items pointer slots, their targets 8 scalar bytes. -/
example : allocTyped (.pointer (.map (.array (.pointer (.int 64 false)) false) false))
    (.ptr (.map .string (.slice (.ptr (.int 64))))) = true := by decide +kernel

/-- The pinned-tree defect as a counter-factual: had `MapCodec.New` returned the runtime map header
(`reflect.MakeMap(t).Pointer()`), a `*map` field would reference an object of the wrong shape — the pointer to
the new map would sit in a word the collector was never told about. -/
theorem pinned_map_counterfactual : AllocShape.mapHeader ≠ shapeOf (.map .string (.int 64)) ∧
    AllocShape.mapHeader ≠ expectShape (.map (.int 64 false) false) := by
  constructor <;> decide

/-- `MapCodec.Write`/`Omit` read the map through `*(*unsafe.Pointer)(p)` only: the written bytes do not depend on the
nil flag of the map variable (nor on anything else the collector may change). -/
theorem write_nil_flag_free (env : Env) (n : Nat) (val : Codec) (oe : Bool) (ks : List Bytes) (vs : List GoVal) :
    write env n (.map val oe) (.map true ks vs) = write env n (.map val oe) (.map false ks vs) := by
  cases n <;> simp [write]

/-- **The tie to the source.** Every `return` of every `New` method of avro, avro/time, avro/null — re-extracted
from the Go sources on this run — has an allowed form and, for the codec types of the model, allocates exactly
`newShape`; `arrayCodec.resizeSlice` allocates the backing array with the slice's own element type. (Reverting the
map-slot repair makes `MapCodec.New` an `other` row; allocating the pointer slot as `uintptr`, or the backing array
with the byte type, changes a row: this theorem then stops checking.) -/
theorem alloc_facts_ok : Generated.allocFacts.all factOK = true := by decide +kernel

theorem alloc_facts_ok_rows : ∀ f ∈ Generated.allocFacts, factOK f = true :=
  fun f hf => (List.all_eq_true.mp alloc_facts_ok) f hf

theorem alloc_facts_complete : factsComplete Generated.allocFacts = true := by decide +kernel

/-- `factOK` is not trivially true: the pinned tree's `MapCodec.New`, a pointer slot allocated as `uintptr`, and a
slice backing array allocated as bytes are all rejected. -/
example : factOK pinnedMapNew = false ∧ factOK uintptrSlot = false ∧ factOK byteBacking = false := by decide +kernel

theorem slice_header_layout_ok : sliceHeaderOK Generated.layout_sliceHeader = true := by decide +kernel

theorem mapiter_layout_ok : mapiterOK Generated.layout_mapiter Generated.reflectMapIterSize = true := by decide +kernel

end Avro.C11
