import AvroModel.Lemmas.Encoder
/-!
# C09 — Encoder output is an exact, gap-free sequence of blocks for any call history

Model: `AvroModel/Encoder.lean`. `specPart` is the reference partition written from the property
statement; `encRun` mirrors `NewEncoderFor`/`Encode`/`Flush`/`WriteBlock`.
All theorems are for every finite call history, every block size, any compression function.
`cfg.header` and `cfg.sync` are independent fields here; that the header carries that marker
(`H.sync = cfg.sync`) is asked only where a reader enters, with `ValidHeader` (C16, C01).
-/
namespace Avro.C09
open Avro

/-- Nothing lost, duplicated or reordered: the blocks followed by the pending records are exactly
the records encoded, in order. -/
theorem spec_preserves (bs : Nat) (ops : List EncOp) (pend : List Bytes) :
    (specPart bs ops pend).1.flatten ++ (specPart bs ops pend).2 = pend ++ encodings ops := by
  fun_induction specPart bs ops pend with
  | case1 pend => simp [encodings]
  | case2 ops ih => simpa [encodings] using ih
  | case3 ops pend h ih => simp [encodings, List.append_assoc, ih]
  | case4 r ops pend h ih => simp [encodings, List.append_assoc, ih]
  | case5 r ops pend h ih => simp [encodings, ih]

/-- No empty block is ever written. -/
theorem spec_nonempty (bs : Nat) (ops : List EncOp) (pend : List Bytes) :
    ∀ b ∈ (specPart bs ops pend).1, b ≠ [] := by
  fun_induction specPart bs ops pend with
  | case1 pend => simp
  | case2 ops ih => exact ih
  | case3 ops pend h ih => simpa using ⟨h, ih⟩
  | case4 r ops pend h ih => simpa using ih
  | case5 r ops pend h ih => exact ih

/-- After flush nothing remains buffered. -/
theorem spec_flush_drains (bs : Nat) (ops : List EncOp) (pend : List Bytes) :
    (specPart bs (ops ++ [.flush]) pend).2 = [] := by
  induction ops, pend using specPart.induct bs with
  | case1 pend => simp only [List.nil_append, specPart]; split <;> rfl
  | case2 ops ih => simpa [specPart] using ih
  | case3 ops pend h ih => simpa [specPart, h] using ih
  | case4 r ops pend h ih => rw [List.cons_append, specPart_encode_pos h]; exact ih
  | case5 r ops pend h ih => rw [List.cons_append, specPart_encode_neg h]; exact ih

/-- `pend` has not reached the threshold `bs`: nothing is pending, or fewer than `bs` bytes are. The
first disjunct is there for `bs = 0`, where no byte count is below the threshold. -/
def Below (bs : Nat) (pend : List Bytes) : Prop := pend = [] ∨ pend.flatten.length < bs

/-- Blocks are emitted as soon as the threshold is reached: what stays pending is below the threshold … -/
theorem spec_pending_below (bs : Nat) (ops : List EncOp) (pend : List Bytes) (h : Below bs pend) :
    Below bs (specPart bs ops pend).2 := by
  fun_induction specPart bs ops pend with
  | case1 pend => exact h
  | case2 ops ih => exact ih h
  | case3 ops pend _ ih => exact ih (.inl rfl)
  | case4 r ops pend _ ih => exact ih (.inl rfl)
  | case5 r ops pend hlt ih => exact ih (.inr (by omega))

/-- … and no block could have been closed one record earlier. -/
theorem spec_blocks_minimal (bs : Nat) (ops : List EncOp) (pend : List Bytes) (h : Below bs pend) :
    ∀ b ∈ (specPart bs ops pend).1, ∀ init r, b = init ++ [r] → Below bs init := by
  fun_induction specPart bs ops pend with
  | case1 pend => simp
  | case2 ops ih => exact ih h
  | case3 ops pend hne ih =>
    intro b hb init r hbr
    rcases List.mem_cons.mp hb with rfl | hb
    · -- the block closed by flush is `pend`, whose proper prefixes are below the threshold
      by_cases hi : init = []
      · exact .inl hi
      · have := h.resolve_left hne
        rw [hbr, List.flatten_append, List.length_append] at this
        exact .inr (by omega)
    · exact ih (.inl rfl) b hb init r hbr
  | case4 r0 ops pend _ ih =>
    intro b hb init r hbr
    rcases List.mem_cons.mp hb with rfl | hb
    · exact (List.append_inj' hbr rfl).1 ▸ h
    · exact ih (.inl rfl) b hb init r hbr
  | case5 r ops pend hlt ih => exact ih (.inr (by omega))

/-- Main refinement: from a state that represents `pend`, a fault-free run of `ops` emits exactly
the frames of `specPart`'s blocks and ends in the state that represents `specPart`'s pending list. -/
theorem run_refines (cfg : EncCfg) (ops : List EncOp) : ∀ (pend : List Bytes) (i : Nat) (s : EncState) (w : WState),
    w.Free → s.count = pend.length → s.wb = pend.flatten →
    ∃ s' w', encRunFrom cfg ops i s w = (s', w', none) ∧ w'.Free ∧
      w'.accepted = w.accepted ++ (((specPart cfg.blockSize ops pend).1).map (frame cfg)).flatten ∧
      s'.count = (specPart cfg.blockSize ops pend).2.length ∧
      s'.wb = (specPart cfg.blockSize ops pend).2.flatten := by
  intro pend i s w hw hc hb
  obtain ⟨h1, h2, h3⟩ := encRunFrom_writes cfg ops i s w
  obtain ⟨w', hwa, hfree, hacc⟩ := writeAll_free hw (runChunks cfg ops s)
  obtain ⟨hch, hend⟩ := runChunks_spec cfg ops pend s ⟨hc, hb⟩
  rw [hwa] at h1 h2 h3
  exact ⟨_, w', Prod.ext (h3 rfl) (Prod.ext h1 (Option.isNone_iff_eq_none.mp h2)), hfree, by rw [hacc, hch], hend.1, hend.2⟩

/-- **C09**: for every call history the bytes written are the header followed by the frames of the
reference partition's blocks (each: exact record count, exact byte length, payload, sync marker),
no call fails, and the encoder's buffer holds exactly the pending records. -/
theorem refines (cfg : EncCfg) (ops : List EncOp) :
    ∃ s' w', encRun cfg {} ops = (s', w', none) ∧
      w'.accepted = cfg.header ++ (((specPart cfg.blockSize ops []).1).map (frame cfg)).flatten ∧
      s'.count = (specPart cfg.blockSize ops []).2.length ∧
      s'.wb = (specPart cfg.blockSize ops []).2.flatten := by
  have hw := write_free (w := {}) rfl cfg.header
  obtain ⟨s', w', hrun, -, hacc, hc, hb⟩ := run_refines cfg ops [] 1 {}
    { calls := 1, accepted := cfg.header, log := [cfg.header] } rfl rfl rfl
  exact ⟨s', w', by rw [encRun, hw]; exact hrun, hacc, hc, hb⟩

/-- After `Flush` returns nothing remains buffered. -/
theorem flush_drains (cfg : EncCfg) (ops : List EncOp) :
    ∃ w', encRun cfg {} (ops ++ [.flush]) = ({ count := 0, wb := [] }, w', none) := by
  obtain ⟨s', w', hrun, _, hcnt, hwb⟩ := refines cfg (ops ++ [.flush])
  rw [spec_flush_drains] at hcnt hwb
  refine ⟨w', ?_⟩
  rw [hrun]
  cases s'; simp at hcnt hwb; simp [hcnt, hwb]

/-- The frame of a block: count varint, size varint, payload, sync — exact count and byte length. -/
theorem frame_shape (cfg : EncCfg) (blk : List Bytes) :
    frame cfg blk = writeVarint blk.length ++ writeVarint (cfg.compress blk.flatten).length ++
      cfg.compress blk.flatten ++ cfg.sync := by
  simp [frame, blockChunks]

/-! Non-vacuity: a concrete history with a threshold crossing, an empty flush and a pending record. -/
example : specPart 3 [.encode [1, 2], .encode [3], .flush, .flush, .encode [4]] [] =
    ([[[1, 2], [3]]], [[4]]) := by decide

end Avro.C09
