import AvroModel.Props.C01
/-!
# C13 — "… and decoding those bytes returns the original value", for caller-supplied schemas

`C13.write_then_read` (Props/C13.lean) says that decoding what was written yields the value the written
datum denotes (`ofAvro ∘ toAvro`), or runs out of budget. With the explicit read budget
(`Lemmas/ReadOk.lean`) and the value-level round trip (`Lemmas/RoundTrip.lean`) the statement
becomes the one the property makes, for every schema the caller may supply and every codec the library
builds from it — whichever position null occupies in a union, whatever numeric width or logical
type: the bytes decode to the NORMAL FORM of the value written, and to the value itself when it is
plain (no nil/empty-map distinction, no omitted zero, no invalid wrapper payload, no sub-resolution
time).
-/
namespace Avro.C13
open Avro

variable (env : Env)

/-- **C13, "decoding those bytes returns the original value"**, for a codec built from a caller schema:
`sch` is any schema, `T` any Go type for which `buildCodec` succeeds. No hypothesis mentions budgets
running out: `goBudget c g` is computed from the codec and the value written. -/
theorem built_roundtrip (reg : Reg) (hreg : ∀ id, reg.custom id = none) (nb fa n n' m m' : Nat)
    (sch : Schema) (T : Option GoType) (oe : Bool) (c : Codec) (s : ASchema) (g : GoVal) (bs bs' rest : Bytes) (v : Value)
    (hb : buildCodec reg nb sch T oe = .ok c) (hc : classify fa sch = some s)
    (hw : write env n c g = some bs) (ht : toAvro env (omits env) m c g = some v)
    (he : encode (canonPlan v) s v = some bs') (hok : RTOk env m' c g) (hn : goBudget c g ≤ n') :
    read env n' c (bs ++ rest) (Codec.zero env c) = .ok (normCodec env m' c g, rest) :=
  C01.value_roundtrip_go env c s ((buildOkAt reg hreg nb).build sch T oe c hb fa s hc) n n' m m' g bs bs' rest v hw ht he hok hn

/-- … and exactly the value written when it is plain -/
theorem built_roundtrip_exact (h : EnvLaws env) (reg : Reg) (hreg : ∀ id, reg.custom id = none) (nb fa n n' m m' : Nat)
    (sch : Schema) (T : Option GoType) (oe : Bool) (c : Codec) (s : ASchema) (g : GoVal) (bs bs' rest : Bytes) (v : Value)
    (hb : buildCodec reg nb sch T oe = .ok c) (hc : classify fa sch = some s)
    (hw : write env n c g = some bs) (ht : toAvro env (omits env) m c g = some v)
    (he : encode (canonPlan v) s v = some bs') (hok : RTOk env m' c g) (hp : Plain env m' c g)
    (hn : goBudget c g ≤ n') :
    read env n' c (bs ++ rest) (Codec.zero env c) = .ok (g, rest) := by
  have := built_roundtrip env reg hreg nb fa n n' m m' sch T oe c s g bs bs' rest v hb hc hw ht he hok hn
  rwa [normCodec_plain env h m' c g hp] at this

/-! non-vacuity: a caller schema with null SECOND, `["long","null"]`, for a `*int64` field -/

def exSch : Schema := .mk "union" none [.prim "long", .prim "null"]
def exT : GoType := .ptr (.int 64)
theorem exSch_built : buildCodec libReg 20 exSch (some exT) false = .ok (.unionOne (.pointer (.int 64 false)) 0) := by rfl
theorem exSch_classify : classify 5 exSch = some (.union [.long, .null]) := by rfl

example : ∃ c s, buildCodec libReg 20 exSch (some exT) false = .ok c ∧ classify 5 exSch = some s ∧
    -- a non-nil pointer: selector 0 (the long branch is first), then the value
    write toyEnv 5 c (.ptr (some (.int 5))) = some [0, 10] ∧
    read toyEnv (goBudget c (.ptr (some (.int 5)))) c ([0, 10] ++ [7]) (Codec.zero toyEnv c) = .ok (.ptr (some (.int 5)), [7]) ∧
    -- a nil pointer: selector 1
    write toyEnv 5 c (.ptr none) = some [2] ∧
    read toyEnv (goBudget c (.ptr none)) c ([2] ++ [7]) (Codec.zero toyEnv c) = .ok (.ptr none, [7]) := by
  have hcf := (buildOkAt libReg (fun _ => rfl) 20).build exSch (some exT) false _ exSch_built 5 _ exSch_classify
  have hw5 : write toyEnv 5 (.unionOne (.pointer (.int 64 false)) 0) (.ptr (some (.int 5))) = some [0, 10] := by
    decide +kernel
  have hwn : write toyEnv 5 (.unionOne (.pointer (.int 64 false)) 0) (.ptr none) = some [2] := by decide +kernel
  refine ⟨_, _, exSch_built, exSch_classify, hw5, ?_, hwn, ?_⟩
  · exact C01.value_roundtrip_go toyEnv _ _ hcf 5 _ 5 5 (.ptr (some (.int 5))) [0, 10] [0, 10] [7]
      (.union 0 (.int 5)) hw5 (by rfl) (by decide +kernel)
      ⟨by decide, fun _ => show inRange 64 5 by decide⟩ (Nat.le_refl _)
  · exact C01.value_roundtrip_go toyEnv _ _ hcf 5 _ 5 5 (.ptr none) [2] [2] [7]
      (.union 1 .null) hwn (by rfl) (by decide +kernel)
      ⟨by decide, fun h => absurd h (by decide)⟩ (Nat.le_refl _)

end Avro.C13
