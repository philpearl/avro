import AvroModel.Lemmas.File
/-!
# C07 — The container reader delivers exactly the declared records and rejects damage

Model: `AvroModel/File.lean` (`readFile` mirrors `ReadFile`, file.go:107-210). Vocabulary
(`Blk`, `frame`, `body`, `GoodBlk`, `ValidHeader`, `ValidFile`, `handOver`) is in `Lemmas/File.lean`.

A *valid file* is `hdr ++ body H.sync bl`: a header the reader accepts as `H` (for instance any
`mkHeader`, see `valid_mkHeader`), selecting one of the three codecs and carrying a schema from which
the record decoder `rc` is built, followed by the frames of blocks each of which decompresses to the
concatenation of its records' encodings (`decompress (compress x) = ok x` is all that is asked of
the compressor: `GoodBlk.of_compress`) and each of whose records `rc` decodes exactly. All theorems
hold for every such file (any record type, codec, block partition — empty blocks and bytes left
over inside a block included), every external decompressor / CRC function, and every step budget
`fuel` for which the header is valid (`ValidHeader` is indexed by it: the metadata blocks are counted
against it too) and that exceeds the number of blocks.

Reading of the property for a sync mismatch (DESIGN.md section 9): the records of the block whose
marker is wrong have been handed to the callback before the marker is compared; what is required
is the error, and that nothing *after* that block is delivered.
-/
namespace Avro.C07
open Avro Avro.File

variable {α ε : Type}

/-- **C07 (delivers)**: a valid file read with a callback that never fails: every declared record,
in file order, nothing else, and the result is success. -/
theorem delivers {X : Ext α} {fuel : Nat} {hdr : Bytes} {H : Header} {sel : CodecSel} {rc : RecCodec α} {bl : List (Blk α)}
    (hv : ValidFile X fuel hdr H sel rc bl) (cb : Nat → Option ε) (hcb : ∀ i, cb i = none) :
    readFile X fuel cb (hdr ++ body H.sync bl) = ⟨allVals bl, .ok⟩ := by
  rw [readFile_valid hv, handOver_none cb hcb]
  simp [thenOut]

/-- **C07 (callback error)**: the callback fails for the first time at global record index `i` with
error `e`: exactly the records `0 .. i` were handed over (`i + 1` callbacks), reading stopped there,
and the result is that very error value. -/
theorem callback_error {X : Ext α} {fuel : Nat} {hdr : Bytes} {H : Header} {sel : CodecSel} {rc : RecCodec α} {bl : List (Blk α)}
    (hv : ValidFile X fuel hdr H sel rc bl) (cb : Nat → Option ε) (i : Nat) (e : ε)
    (hi : cb i = some e) (hbefore : ∀ j, j < i → cb j = none) (hlt : i < (allVals bl).length) :
    readFile X fuel cb (hdr ++ body H.sync bl) = ⟨(allVals bl).take (i + 1), .cb e⟩ := by
  rw [readFile_valid hv, handOver_fail cb i e hi (allVals bl) 0 (by omega) (by omega) (fun j _ hj => hbefore j hj)]
  rfl

theorem callback_error_count {X : Ext α} {fuel : Nat} {hdr : Bytes} {H : Header} {sel : CodecSel} {rc : RecCodec α} {bl : List (Blk α)}
    (hv : ValidFile X fuel hdr H sel rc bl) (cb : Nat → Option ε) (i : Nat) (e : ε)
    (hi : cb i = some e) (hbefore : ∀ j, j < i → cb j = none) (hlt : i < (allVals bl).length) :
    (readFile X fuel cb (hdr ++ body H.sync bl)).delivered.length = i + 1 := by
  rw [callback_error hv cb i e hi hbefore hlt]
  simp; omega

/-! ### Damaged blocks

`pre` are intact blocks, then comes the damaged one, then `tail` — whatever follows (further blocks,
garbage, nothing). -/

/-- A block (record count `c`, stored payload `p`) whose payload the decompressor rejects with error
`k`: the result is that error and nothing of this block or of anything after it is delivered. -/
theorem damaged_block {X : Ext α} {fuel : Nat} {hdr : Bytes} {H : Header} {sel : CodecSel} {rc : RecCodec α}
    (hv : ValidHeader X fuel hdr H sel rc) (pre : List (Blk α)) (hpre : ∀ b ∈ pre, GoodBlk (decompress X sel) rc.decode b)
    (hfuel : pre.length < fuel) (cb : Nat → Option ε) (hcb : ∀ i, cb i = none)
    (c : Int) (p tail : Bytes) (hc : inRange 64 c) (hp : p.length ≤ maxLen) (k : ErrKind)
    (hbad : decompress X sel p = .err k) :
    readFile X fuel cb (hdr ++ (body H.sync pre ++ (writeVarint c ++ (writeVarint p.length ++ p) ++ tail))) =
      ⟨allVals pre, .err k⟩ := by
  rw [readFile_body hv cb pre hpre (f := fuel - pre.length - 1 + 1) (by omega), handOver_none cb hcb]
  simp only [thenOut, readBlocks_raw hc hp]
  simp [blockTail, hbad]

/-- **C07 (inflate)**: a deflate block the inflater rejects ⇒ error, nothing of that block delivered. -/
theorem inflate {X : Ext α} {fuel : Nat} {hdr : Bytes} {H : Header} {rc : RecCodec α}
    (hv : ValidHeader X fuel hdr H .deflate rc) (pre : List (Blk α)) (hpre : ∀ b ∈ pre, GoodBlk (decompress X .deflate) rc.decode b)
    (hfuel : pre.length < fuel) (cb : Nat → Option ε) (hcb : ∀ i, cb i = none)
    (c : Int) (p tail : Bytes) (hc : inRange 64 c) (hp : p.length ≤ maxLen)
    (hbad : X.inflate p = none) :
    readFile X fuel cb (hdr ++ (body H.sync pre ++ (writeVarint c ++ (writeVarint p.length ++ p) ++ tail))) =
      ⟨allVals pre, .err .inflate⟩ :=
  damaged_block hv pre hpre hfuel cb hcb c p tail hc hp .inflate (by simp [decompress, hbad])

/-- **C07 (crc)**: a snappy block whose stored big-endian CRC (last four bytes of the payload) differs
from the CRC of what the rest decodes to ⇒ error, nothing of that block delivered. -/
theorem crc {X : Ext α} {fuel : Nat} {hdr : Bytes} {H : Header} {rc : RecCodec α}
    (hv : ValidHeader X fuel hdr H .snappy rc) (pre : List (Blk α)) (hpre : ∀ b ∈ pre, GoodBlk (decompress X .snappy) rc.decode b)
    (hfuel : pre.length < fuel) (cb : Nat → Option ε) (hcb : ∀ i, cb i = none)
    (c : Int) (p tail d : Bytes) (hc : inRange 64 c) (hp : p.length ≤ maxLen) (h4 : 4 ≤ p.length)
    (hdec : X.unsnappy (p.take (p.length - 4)) = some d) (hcrc : X.crc d ≠ beU32 (p.drop (p.length - 4))) :
    readFile X fuel cb (hdr ++ (body H.sync pre ++ (writeVarint c ++ (writeVarint p.length ++ p) ++ tail))) =
      ⟨allVals pre, .err .crc⟩ := by
  apply damaged_block hv pre hpre hfuel cb hcb c p tail hc hp .crc
  have : ¬ p.length < 4 := by omega
  simp [decompress, this, h4, hdec, hcrc]

/-- a snappy block whose compressed part `snappy.Decode` rejects -/
theorem snappy_garbled {X : Ext α} {fuel : Nat} {hdr : Bytes} {H : Header} {rc : RecCodec α}
    (hv : ValidHeader X fuel hdr H .snappy rc) (pre : List (Blk α)) (hpre : ∀ b ∈ pre, GoodBlk (decompress X .snappy) rc.decode b)
    (hfuel : pre.length < fuel) (cb : Nat → Option ε) (hcb : ∀ i, cb i = none)
    (c : Int) (p tail : Bytes) (hc : inRange 64 c) (hp : p.length ≤ maxLen) (h4 : 4 ≤ p.length)
    (hdec : X.unsnappy (p.take (p.length - 4)) = none) :
    readFile X fuel cb (hdr ++ (body H.sync pre ++ (writeVarint c ++ (writeVarint p.length ++ p) ++ tail))) =
      ⟨allVals pre, .err .snappyDecode⟩ := by
  apply damaged_block hv pre hpre hfuel cb hcb c p tail hc hp .snappyDecode
  have : ¬ p.length < 4 := by omega
  simp [decompress, this, h4, hdec]

/-- a snappy block too short to hold its checksum (an error, not a slice-bounds panic) -/
theorem snappy_short {X : Ext α} {fuel : Nat} {hdr : Bytes} {H : Header} {rc : RecCodec α}
    (hv : ValidHeader X fuel hdr H .snappy rc) (pre : List (Blk α)) (hpre : ∀ b ∈ pre, GoodBlk (decompress X .snappy) rc.decode b)
    (hfuel : pre.length < fuel) (cb : Nat → Option ε) (hcb : ∀ i, cb i = none)
    (c : Int) (p tail : Bytes) (hc : inRange 64 c) (h4 : p.length < 4) :
    readFile X fuel cb (hdr ++ (body H.sync pre ++ (writeVarint c ++ (writeVarint p.length ++ p) ++ tail))) =
      ⟨allVals pre, .err .snappyShort⟩ := by
  apply damaged_block hv pre hpre hfuel cb hcb c p tail hc (by unfold maxLen; omega) .snappyShort
  simp [decompress, h4]

/-- **C07 (sync)**: a good block followed by sixteen bytes that differ from the header's sync marker
(a damaged marker in the header shows as this at the first block, `pre = []`): the result is an error and no record of any later
block is delivered — the delivered records are exactly those of the blocks up to and including this one. -/
theorem sync {X : Ext α} {fuel : Nat} {hdr : Bytes} {H : Header} {sel : CodecSel} {rc : RecCodec α}
    (hv : ValidHeader X fuel hdr H sel rc) (pre : List (Blk α)) (hpre : ∀ b ∈ pre, GoodBlk (decompress X sel) rc.decode b)
    (hfuel : pre.length < fuel) (cb : Nat → Option ε) (hcb : ∀ i, cb i = none)
    (b : Blk α) (hb : GoodBlk (decompress X sel) rc.decode b) (sig tail : Bytes) (hlen : sig.length = 16) (hsig : sig ≠ H.sync) :
    readFile X fuel cb (hdr ++ (body H.sync pre ++ (frameHead b ++ sig ++ tail))) =
      ⟨allVals pre ++ b.vals, .err .syncMismatch⟩ := by
  rw [List.append_assoc, readFile_body hv cb pre hpre (f := fuel - pre.length - 1 + 1) (by omega), handOver_none cb hcb]
  simp only [thenOut]
  rw [readBlocks_block _ b hb, handOver_none cb hcb]
  simp [thenOut, syncThen_other hlen hsig]

/-- **C07 (magic)**: the first four bytes are not `Obj\x01` (or are not there): an error, nothing delivered. -/
theorem magic (X : Ext α) (fuel : Nat) (cb : Nat → Option ε) (bs : Bytes) (h : bs.take 4 ≠ File.magic) :
    ∃ e, readFile X fuel cb bs = ⟨[], .err e⟩ := by
  unfold readFile readFileHeader
  cases hr : readFull 4 bs with
  | error e => exact ⟨_, rfl⟩
  | ok x =>
    obtain ⟨m, r⟩ := x
    obtain ⟨hl, hbs⟩ := readFull_exact.ok hr
    have : bs.take 4 = m := by rw [hbs, ← hl]; simp
    rw [this] at h
    simp only [ne_eq, h, not_false_eq_true, if_true]
    exact ⟨_, rfl⟩

/-- **C07 (unknown codec)**: `avro.codec` names anything but null, deflate, snappy: an error, nothing delivered. -/
theorem unknown_codec (X : Ext α) (fuel : Nat) (cb : Nat → Option ε) (bs rest : Bytes) (H : Header) (v : Bytes)
    (hh : readFileHeader fuel bs = .ok (H, rest)) (hc : metaGet H.meta kCodec = some v)
    (h1 : v ≠ vNull) (h2 : v ≠ vDeflate) (h3 : v ≠ vSnappy) :
    readFile X fuel cb bs = ⟨[], .err .unknownCodec⟩ := by
  unfold readFile
  simp [hh, selectCodec, hc, h1, h2, h3]

/-- **C07 (no schema)**: no `avro.schema` entry in the header: an error, nothing delivered. -/
theorem no_schema (X : Ext α) (fuel : Nat) (cb : Nat → Option ε) (bs rest : Bytes) (H : Header)
    (hh : readFileHeader fuel bs = .ok (H, rest)) (hs : metaGet H.meta kSchema = none) :
    ∃ e, readFile X fuel cb bs = ⟨[], .err e⟩ := by
  unfold readFile
  simp only [hh]
  split
  · exact ⟨_, rfl⟩
  · simp only [hs]; exact ⟨_, rfl⟩

/-- a schema that does not parse, or from which no decoder for the caller's type can be built -/
theorem bad_schema (X : Ext α) (fuel : Nat) (cb : Nat → Option ε) (bs rest : Bytes) (H : Header) (js : Bytes)
    (hh : readFileHeader fuel bs = .ok (H, rest)) (hs : metaGet H.meta kSchema = some js) (hb : X.build js = none) :
    ∃ e, readFile X fuel cb bs = ⟨[], .err e⟩ := by
  unfold readFile
  simp only [hh]
  split
  · exact ⟨_, rfl⟩
  · simp only [hs, hb]; exact ⟨_, rfl⟩

theorem selectCodec_absent (m : Meta) (h : metaGet m kCodec = none) : selectCodec m = some .null := by
  simp [selectCodec, h]

/-- **C07 (no codec entry means uncompressed)**: a file whose header has no `avro.codec` entry is read
exactly like the file whose header has the additional entry `avro.codec = "null"`. -/
theorem no_codec_means_null (X : Ext α) (fuel : Nat) (cb : Nat → Option ε) (a b rest : Bytes) (H H' : Header)
    (ha : readFileHeader fuel a = .ok (H, rest)) (hb : readFileHeader fuel b = .ok (H', rest))
    (habsent : metaGet H.meta kCodec = none) (hmeta : H'.meta = (kCodec, vNull) :: H.meta) (hsync : H'.sync = H.sync) :
    readFile X fuel cb a = readFile X fuel cb b := by
  unfold readFile
  rw [ha, hb]
  have hk : ¬ kCodec = kSchema := by decide
  simp only [hmeta, hsync, selectCodec, habsent, metaGet, hk, if_true, if_false]

/-- **C07 (no panic)**: whatever the bytes, the model of `ReadFile` does not panic, provided every
record decoder the header can build is `Tame` (returns a value or an error on every input — an
assumption, established nowhere). Negative lengths and snappy blocks shorter than their checksum are
errors; allocation is not modelled (`readN` reads in chunks of at most 1 MiB). -/
theorem no_panic (X : Ext α) (htame : ∀ js rc, X.build js = some rc → Tame rc.decode)
    (fuel : Nat) (cb : Nat → Option ε) (bs : Bytes) (k : PanicKind) :
    (readFile X fuel cb bs).res ≠ .panic k :=
  (readFile_only X fuel cb bs).ne_panic (fun h => h htame) k

/-- a length that nothing backs is an error, however large: magic, one metadata entry whose key
declares 2^62 bytes -/
example (X : Ext Unit) (cb : Nat → Option Unit) :
    readFile X 2 cb [0x4F, 0x62, 0x6A, 0x01, 0x02, 0x80, 0x80, 0x80, 0x80, 0x80, 0x80, 0x80, 0x80, 0x80, 0x01] = ⟨[], .err .metaKey⟩ := by
  have h : readN 4611686018427387904 ([] : Bytes) = .error .eof := by
    rw [readN]; simp [readFull, chunk]
  simp [readFile, readFileHeader, readFull, File.magic, readMeta, ioVarint, ioUvarintAux, readEntries, readBytes, unzig, h]

/-- The model's step budget: with `fuel > length` the model never stops for lack of steps (the
driver runs it with `length + 1`), so `Res.fuel` never stands for a behaviour of the code. -/
theorem fuel_enough (X : Ext α) (fuel : Nat) (cb : Nat → Option ε) (bs : Bytes) (hf : bs.length < fuel) :
    (readFile X fuel cb bs).res ≠ .fuel := (readFile_only X fuel cb bs).ne_fuel (by omega)

/-- valid headers exist: any `mkHeader` of well-formed metadata whose map selects a codec and holds a
usable schema (the lemma files build the writer's header from it) -/
theorem valid_mkHeader (X : Ext α) (blocks : List (List (Bytes × Bytes))) (sync : Bytes) (fuel : Nat)
    (hg : GoodMetaBlocks blocks) (hf : blocks.length < fuel) (hs : sync.length = 16)
    (sel : CodecSel) (rc : RecCodec α) (hc : selectCodec (metaOf blocks) = some sel)
    (hsch : ∃ js, metaGet (metaOf blocks) kSchema = some js ∧ X.build js = some rc) :
    ValidHeader X fuel (mkHeader blocks sync) { «meta» := metaOf blocks, sync := sync } sel rc :=
  { header := readFileHeader_accepts blocks sync fuel hg hf hs, sync16 := hs, codec := hc, schema := hsch }

/-- good blocks exist: all that is asked of the compressor is `decompress (compress x) = ok x` -/
theorem GoodBlk.of_compress (decomp : Bytes → Step Bytes) (decode : Bytes → Outcome (α × Bytes)) (compress : Bytes → Bytes)
    (hlaw : ∀ x, decomp (compress x) = .ok x) (recs : List (α × Bytes)) (junk : Bytes)
    (hexact : ∀ ve ∈ recs, ∀ rest, decode (ve.2 ++ rest) = .ok (ve.1, rest))
    (hsmall : (compress ((recs.map (·.2)).flatten ++ junk)).length ≤ maxLen) (hcount : recs.length < 2 ^ 63) :
    GoodBlk decomp decode { recs := recs, junk := junk, payload := compress ((recs.map (·.2)).flatten ++ junk) } :=
  { decomp := hlaw _, exact := hexact, small := hsmall, count := hcount }

/-! ### Non-vacuity: a concrete file, read by the model

Records are single bytes; the schema is the one-byte string `"`; sync marker 16 × 0xAA; two blocks
`[1, 2]` and `[3]` (the second with one left-over byte), codec null. -/

def exX : Ext UInt8 :=
  { inflate := fun c => some c, unsnappy := fun c => some c, crc := fun _ => 0,
    build := fun _ => some { decode := fun bs => match bs with | [] => .err | b :: r => .ok (b, r) } }

def exSync : Bytes := List.replicate 16 0xAA
def exHdr : Bytes := mkHeader [[(kSchema, [0x22]), (kCodec, vNull)]] exSync
def exB1 : Blk UInt8 := { recs := [(1, [1]), (2, [2])], junk := [], payload := [1, 2] }
def exB2 : Blk UInt8 := { recs := [(3, [3])], junk := [9], payload := [3, 9] }
def exFile : Bytes := exHdr ++ body exSync [exB1, exB2]

example : readFile exX 5 (fun _ => (none : Option Unit)) exFile = ⟨[1, 2, 3], .ok⟩ := by decide +kernel

/-- the callback fails at index 1 with error token 7 -/
example : readFile exX 5 (fun i => if i = 1 then some 7 else none) exFile = ⟨[1, 2], .cb 7⟩ := by decide +kernel

/-- the first block's trailing marker differs in one bit: its records are delivered, block two is not -/
example : readFile exX 5 (fun _ => (none : Option Unit))
    (exHdr ++ (frameHead exB1 ++ (0xAB :: List.replicate 15 0xAA) ++ frame exSync exB2)) = ⟨[1, 2], .err .syncMismatch⟩ := by decide +kernel

/-- a negative record count delivers nothing and reading goes on with the next block -/
example : readFile exX 5 (fun _ => (none : Option Unit))
    (exHdr ++ (writeVarint (-2) ++ (writeVarint 2 ++ [1, 2]) ++ exSync ++ frame exSync exB2)) = ⟨[3], .ok⟩ := by decide +kernel

/-- the hypotheses of the theorems are satisfiable: `exFile` is a `ValidFile` -/
example : ValidFile exX 5 exHdr { «meta» := metaOf [[(kSchema, [0x22]), (kCodec, vNull)]], sync := exSync } .null
    { decode := fun bs => match bs with | [] => .err | b :: r => .ok (b, r) } [exB1, exB2] := by
  refine { toValidHeader := valid_mkHeader exX _ exSync 5 (good_writerMeta _ _ (by decide) (by decide)) (by decide) (by decide)
             .null _ (by decide) ⟨[0x22], by decide, rfl⟩,
           blocks := ?_, fuel := by decide }
  · intro b hb
    simp only [List.mem_cons, List.not_mem_nil, or_false] at hb
    rcases hb with rfl | rfl
    · exact { decomp := rfl, exact := by intro ve hve rest; simp [exB1] at hve; rcases hve with rfl | rfl <;> rfl,
              small := by decide, count := by decide }
    · exact { decomp := rfl, exact := by intro ve hve rest; simp [exB2] at hve; subst hve; rfl,
              small := by decide, count := by decide }

end Avro.C07
