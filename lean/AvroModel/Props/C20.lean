import AvroModel.Lemmas.SchemaValid
import AvroModel.Lemmas.Governs
import AvroModel.Lemmas.Unaffected
import AvroModel.Props.C15
/-!
# C20 — A registered custom codec governs its type everywhere and nothing else

Models: `Build.lean` (`buildCodec`: pointers are unwrapped first, then the codec registry is consulted
for every schema that is neither a union nor null; unions recurse on their branches with the same Go
type) and `SchemaGen.lean` (`schemaForType`: the schema registry is consulted first).
A *position* of a type tree is a context `Ctx` with a hole: a path through pointers, slices, arrays,
map values and struct fields with arbitrary sibling fields (`Lemmas/SchemaGen.lean`).

Exceptions made precise (and proved): `byte_element_bypasses` (a slice of a registered type of kind
uint8 is `bytes`: the element type is never looked up), `null_schema_bypasses` (a type registered
with the schema `null` gets the null codec, not its builder). The hypotheses of `governs_codec` say so:
`isByteKind env R = false`, `RegShape rs core`. Positions inside Go arrays `[n]T` have a schema but
no codec (`buildCodec` refuses arrays), so `governs_codec` is vacuous there while `governs_schema`
still holds. A later sibling field with the same JSON name takes over the schema field of an earlier
one (`ntf[name]`, last wins): hypothesis `NoShadow` (cf. C15 finding D24).
-/
namespace Avro.C20
open Avro

/-- **Schema generation emits the registered schema at every position** of a registered type `R`
(registered for the schema registry with `rs`): the schema of `c[R]` is `rs` wrapped by exactly the
wrappers of the path `c`. -/
theorem governs_schema (sreg : SReg) (env : TEnv) (R : GoType) (rs : Schema) (hS : sregLookup sreg R = some rs)
    (hbyte : isByteKind env R = false) (c : Ctx) (hi : c.Included) (fuel : Nat) (ps : List GoType) (S : Schema)
    (h : schemaForType sreg env fuel ps (c.fill R) = .ok S) : CtxSchema c rs S := by
  obtain ⟨m, ps', h', _, _, hx, hc⟩ := gen_ctx hbyte c hi fuel ps S h
  exact gen_registered_inv hS hx ▸ hc

/-- **The registered builder governs every position.** `R` registered with builder `b` and schema `rs`
(plain, or the nullable union of the plain schema `core`); for every position `c`, if the codec for
the generated schema of `c[R]` is built at all, then at the hole of `c` it holds exactly `b core`. -/
theorem governs_codec (reg : Reg) (sreg : SReg) (env : TEnv) (R : GoType) (b : Schema → Except String Codec)
    (rs core : Schema) (hR : regLookup reg R = some b) (hS : sregLookup sreg R = some rs)
    (hshape : RegShape rs core) (hflat : RegSchemasFlat sreg) (hbyte : isByteKind env R = false)
    (c : Ctx) (hi : c.Included) (hs : c.NoShadow) (fuelG : Nat) (ps : List GoType) (S : Schema)
    (hgen : schemaForType sreg env fuelG ps (c.fill R) = .ok S)
    (fuel : Nat) (oe : Bool) (cd : Codec) (hbuild : buildCodec reg fuel S (some (c.fill R)) oe = .ok cd) :
    ∃ l, nav (rs.type == "union") c false cd = some l ∧ b core = .ok l :=
  (governs_of_ctxSchema hR (governs_schema sreg env R rs hS hbyte c hi fuelG ps S hgen) hshape hi hs).1
    fuel oe cd hbuild

/-- a user-defined type `custom 1` (a named struct) registered with the schema `[null, string]` and a
builder that accepts `string` -/
def demoSReg : SReg := SReg.empty.register 1 (nullableSchema (.prim "string"))
def demoReg : Reg := ({ lib := true, custom := fun _ => none } : Reg).register 1 (fun s => s.type == "string")
def demoR : GoType := .custom 1 (.struct "R" "p" [.mk "A" true "" "" (.int 64)])
/-- `struct{ Pre int64; X []*R `json:"x,omitempty"`; Post string }` -/
def demoT : GoType :=
  .struct "T" "p" [.mk "Pre" true "" "" (.int 64), .mk "X" true "x,omitempty" "" (.slice (.ptr demoR)),
    .mk "Post" true "" "" .string]

/-- non-vacuity of `governs_codec`: the schema is generated, the codec is built, and at the position
of `R` (field `x`, under the omitempty union, in the slice, behind the pointer, under the registered
union) sits the registered codec `custom 1`. -/
example :
    schemaForType demoSReg TEnv.empty 6 [] demoT =
      .ok (recordSchema "T" "p" [.mk "Pre" (.prim "long"),
        .mk "x" (nullableSchema (arraySchema (nullableSchema (.prim "string")))), .mk "Post" (.prim "string")]) := by rfl
example :
    (match buildCodec demoReg 20 (recordSchema "T" "p" [.mk "Pre" (.prim "long"),
        .mk "x" (nullableSchema (arraySchema (nullableSchema (.prim "string")))), .mk "Post" (.prim "string")])
        (some demoT) false with
      | .ok cd => nav true (.field "T" "p" [.mk "Pre" true "" "" (.int 64)] "X" "x,omitempty" ""
          (.slice (.ptr .hole)) [.mk "Post" true "" "" .string]) false cd
      | .error _ => none) = some (.custom 1) := by rfl

/-- **Unaffected (schema)**: registering a schema for `custom id` does not change the schema generated
for a type tree (and environment) in which `custom id` does not occur. -/
theorem unaffected_schema (sreg : SReg) (env : TEnv) (id : Nat) (s : Schema)
    (henv : ∀ n t, env n = some t → t.mentions id = false) (fuel : Nat) (ps : List GoType) (T : GoType)
    (hT : T.mentions id = false) :
    schemaForType (sreg.register id s) env fuel ps T = schemaForType sreg env fuel ps T :=
  gen_congr (fun t => t.mentions id = false) (sregLookup_register_ne sreg id s) (fun n t _ => henv n t)
    (fun rec rec' t ht h => genKind_congr env id rec rec' t.strip h (strip_mentions ht)) fuel ps T hT

/-- **Unaffected (codec)**: registering a builder for `custom id` does not change the codec built for
any schema and any Go type in which `custom id` does not occur. -/
theorem unaffected_codec (reg : Reg) (id : Nat) (acc : Schema → Bool) (fuel : Nat) (s : Schema) (T : GoType) (oe : Bool)
    (hT : T.mentions id = false) :
    buildCodec (reg.register id acc) fuel s (some T) oe = buildCodec reg fuel s (some T) oe :=
  (unaff_all reg id acc fuel).build s (some T) oe hT

/-- non-vacuity: `struct{ A int64; T *time.Time }` does not mention `custom 1` -/
example : (GoType.struct "U" "p" [.mk "A" true "" "" (.int 64), .mk "T" true "" "" (.ptr .time)]).mentions 1 = false := by
  rfl

/-- **Last registration wins** (schema registry): after `RegisterSchema(R, s₁); RegisterSchema(R, s₂)`
the lookup of `R` yields `s₂`. -/
theorem last_wins_schema (r : SReg) (id : Nat) (u : GoType) (s₁ s₂ : Schema) :
    sregLookup ((r.register id s₁).register id s₂) (.custom id u) = some s₂ := by
  simp [sregLookup, SReg.register, assocLookup]

/-- **Last registration wins** (codec registry): after `Register(R, b₁); Register(R, b₂)` the builder
found for `R` is `b₂`, as if `b₁` had never been registered. -/
theorem last_wins_codec (r : Reg) (id : Nat) (u : GoType) (a₁ a₂ : Schema → Bool) :
    regLookup ((r.register id a₁).register id a₂) (.custom id u) = regLookup (r.register id a₂) (.custom id u) := by
  simp [regLookup, Reg.register]

/-- … and the earlier registration of another type is kept -/
theorem register_other (r : Reg) (id id' : Nat) (u : GoType) (a : Schema → Bool) (h : id' ≠ id) :
    regLookup (r.register id a) (.custom id' u) = regLookup r (.custom id' u) := by
  simp [regLookup, Reg.register, h]

/-- a slice whose element type is a registered type of kind uint8 is `bytes`: the element type's
registration is not consulted -/
theorem byte_element_bypasses (sreg : SReg) (env : TEnv) (id : Nat) (fuel : Nat) (ps : List GoType)
    (hps : ps.any (GoType.beq (.slice (.custom id (.uint 8)))) = false) :
    schemaForType sreg env (fuel + 1) ps (.slice (.custom id (.uint 8))) = .ok (.prim "bytes") :=
  C15.mapping_bytes sreg env fuel ps _ rfl hps

/-- a type registered with the schema `null` gets the null codec: null schemas never reach the registry -/
theorem null_schema_bypasses (reg : Reg) (fuel : Nat) (R : GoType) (oe : Bool) :
    buildCodec reg (fuel + 2) (.prim "null") (some R) oe = .ok .null := rfl

/-- the library's codec registry (after `time.RegisterCodecs()` and `null.RegisterCodecs()`) -/
def libReg : Reg := { lib := true, custom := fun _ => none }

theorem lib_time_registered : regLookup libReg .time = some buildTime := rfl
theorem lib_null_registered (k : NullKind) : regLookup libReg (.nullT k) = some (buildNull k) := rfl

/-- time.Time under a string schema, a long schema (plain, timestamp-micros, timestamp-millis) and an
int schema with logical type date -/
theorem lib_time_string : buildTime (.prim "string") = .ok .timeString := by rfl
theorem lib_time_long : buildTime (.prim "long") = .ok (.timeLong 1) := by rfl
theorem lib_time_micros :
    buildTime (.mk "long" (some (.mk "" "timestamp-micros" "" "" [] Schema.zero Schema.zero 0 [])) []) =
      .ok (.timeLong 1000) := by rfl
theorem lib_time_millis :
    buildTime (.mk "long" (some (.mk "" "timestamp-millis" "" "" [] Schema.zero Schema.zero 0 [])) []) =
      .ok (.timeLong 1000000) := by rfl
theorem lib_time_date :
    buildTime (.mk "int" (some (.mk "" "date" "" "" [] Schema.zero Schema.zero 0 [])) []) = .ok .date := by rfl
/-- any other schema type is refused by the time builder -/
theorem lib_time_refuses (s : Schema) (h1 : s.type ≠ "string") (h2 : s.type ≠ "long") (h3 : s.type ≠ "int") :
    ∃ e, buildTime s = .error e := by
  simp [buildTime, h1, h2, h3]

/-- what each `null.*` builder accepts -/
theorem lib_null_int (s : Schema) : (∃ c, buildNull .int s = .ok c) ↔ (s.type = "long" ∨ s.type = "int") := by
  simp only [buildNull]; split <;> simp_all
theorem lib_null_bool (s : Schema) : (∃ c, buildNull .bool s = .ok c) ↔ s.type = "boolean" := by
  simp only [buildNull]; split <;> simp_all
theorem lib_null_float (s : Schema) : (∃ c, buildNull .double s = .ok c) ↔ (s.type = "double" ∨ s.type = "float") := by
  simp only [buildNull]; split
  · simp_all
  · split <;> simp_all
theorem lib_null_string (s : Schema) : (∃ c, buildNull .string s = .ok c) ↔ s.type = "string" := by
  simp only [buildNull]; split <;> simp_all
theorem lib_null_time (s : Schema) : (∃ c, buildNull .time s = .ok c) ↔ s.type = "string" := by
  simp only [buildNull]; split <;> simp_all

/-- the schema each library type is registered with is accepted by its own builder (core = the
non-null branch) -/
theorem lib_self_consistent (k : NullKind) :
    ∃ core c, nullTSchema k = nullableSchema core ∧ buildNull k core = .ok c := by
  cases k
  · exact ⟨.prim "long", _, rfl, rfl⟩
  · exact ⟨.prim "boolean", _, rfl, rfl⟩
  · exact ⟨.prim "double", _, rfl, rfl⟩
  · exact ⟨.prim "double", _, rfl, rfl⟩
  · exact ⟨.prim "string", _, rfl, rfl⟩
  · exact ⟨.prim "string", _, rfl, rfl⟩

/-- **time.Time governs every position**: in the codec built for the generated schema of any type
with a `time.Time` at position `c`, the codec at that position is the RFC 3339 string codec. -/
theorem governs_time (sreg : SReg) (env : TEnv) (hflat : RegSchemasFlat sreg) (c : Ctx) (hi : c.Included)
    (hs : c.NoShadow) (fuelG : Nat) (ps : List GoType) (S : Schema)
    (hgen : schemaForType sreg env fuelG ps (c.fill .time) = .ok S)
    (fuel : Nat) (oe : Bool) (cd : Codec) (hbuild : buildCodec libReg fuel S (some (c.fill .time)) oe = .ok cd) :
    nav true c false cd = some .timeString := by
  obtain ⟨l, hl, hb⟩ := governs_codec libReg sreg env .time buildTime (nullableSchema (.prim "string")) (.prim "string")
    rfl rfl (.nullable (by decide) (by decide)) hflat rfl c hi hs fuelG ps S hgen fuel oe cd hbuild
  cases hb
  exact hl

/-- **null.\* govern every position** likewise -/
theorem governs_null (k : NullKind) (sreg : SReg) (env : TEnv) (hflat : RegSchemasFlat sreg) (c : Ctx) (hi : c.Included)
    (hs : c.NoShadow) (fuelG : Nat) (ps : List GoType) (S : Schema)
    (hgen : schemaForType sreg env fuelG ps (c.fill (.nullT k)) = .ok S)
    (fuel : Nat) (oe : Bool) (cd : Codec) (hbuild : buildCodec libReg fuel S (some (c.fill (.nullT k))) oe = .ok cd) :
    ∃ l, nav true c false cd = some l ∧ ∃ core, nullTSchema k = nullableSchema core ∧ buildNull k core = .ok l := by
  obtain ⟨core, c0, hcore, hc0⟩ := lib_self_consistent k
  have hshape : RegShape (nullTSchema k) core := by
    rw [hcore]
    cases k <;> cases hcore <;> exact .nullable (by decide) (by decide)
  obtain ⟨l, hl, hb⟩ := governs_codec libReg sreg env (.nullT k) (buildNull k) (nullTSchema k) core
    rfl rfl hshape hflat rfl c hi hs fuelG ps S hgen fuel oe cd hbuild
  have : (nullTSchema k).type == "union" := by cases k <;> rfl
  rw [this] at hl
  exact ⟨l, hl, core, hcore, hb⟩

end Avro.C20
