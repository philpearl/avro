import AvroModel.Lemmas.SchemaValid
import AvroModel.Lemmas.CodecBuilds
/-!
# C15 — Schema generation is total, deterministic and follows the documented mapping

Model: `AvroModel/SchemaGen.lean` (`schemaForType`, mirroring buildschema.go after the repairs
3cecdd8 / f1a4f87: every composite kind is checked against and pushed on `parents`). Go's call stack
is the fuel; self-referential Go types are written with `GoType.ref` and a type environment.
-/
namespace Avro.C15
open Avro

/-- **Total** (no stack overflow). For every schema registry, every type environment with finitely
many named types `names`, each defined as an actual type of depth at most `W`, every list of parents
and every type tree `T`: with fuel `(|names|) · W + depth T + 1` the result is a schema or an error,
never `overflow`. No restriction on the kinds involved: self-referential slices, maps and pointers
(`type S []S`) are covered as well as structs. -/
theorem total (sreg : SReg) (env : TEnv) (names : List String) (W : Nat) (hb : EnvBound env names W)
    (ps : List GoType) (T : GoType) (fuel : Nat) (hf : names.length * W + T.depth + 1 ≤ fuel) :
    schemaForType sreg env fuel ps T ≠ .overflow := by
  apply total_aux sreg env names W hb
  have := Nat.mul_le_mul_right W (pending_le_length env names ps)
  omega

/-- Totality for finite type trees (no back-references needed): fuel `depth T + 1`. -/
theorem total_closed (sreg : SReg) (ps : List GoType) (T : GoType) (fuel : Nat) (hf : T.depth + 1 ≤ fuel) :
    schemaForType sreg TEnv.empty fuel ps T ≠ .overflow := by
  have hb : EnvBound TEnv.empty [] 0 :=
    EnvBound.mk (fun _ _ h => (by cases h)) (fun _ _ h => (by cases h)) (fun _ _ h => (by cases h))
  apply total sreg TEnv.empty [] 0 hb
  simpa using hf

/-- A type that contains itself never yields a schema: `T = c[ref n]` with `n ↦ T` in the
environment, for every non-empty path `c` through pointers, slices, arrays, map values and included
struct fields, whatever the siblings, the registry and the fuel. -/
theorem cyclic_not_ok (sreg : SReg) (env : TEnv) (c : Ctx) (hc : c ≠ .hole) (hi : c.Included) (n : String)
    (henv : env n = some (c.fill (.ref n))) (fuel : Nat) (ps : List GoType) (s : Schema) :
    schemaForType sreg env fuel ps (c.fill (.ref n)) ≠ .ok s := by
  have hbyte : isByteKind env (.ref n) = false := by
    simp only [isByteKind, resolve, henv, Option.getD]
    cases c <;> first | exact absurd rfl hc | rfl
  -- infinite descent: a successful run contains a successful run on the same type with less fuel
  induction fuel using Nat.strongRecOn generalizing ps s with
  | _ fuel ih =>
    intro h
    obtain ⟨m, ps', u, _, hlt, hx, _⟩ := gen_ctx hbyte c hi fuel ps s h
    cases m with
    | zero => cases hx
    | succ m' =>
      rw [schemaForType_succ] at hx
      simp only [genStep, henv] at hx
      exact ih m' (by have := hlt hc; omega) ps' u hx

/-- **Self-referential types are errors**: with the fuel of `total` the outcome is exactly `err`. -/
theorem cyclic_is_error (sreg : SReg) (env : TEnv) (names : List String) (W : Nat) (hb : EnvBound env names W)
    (c : Ctx) (hc : c ≠ .hole) (hi : c.Included) (n : String) (henv : env n = some (c.fill (.ref n)))
    (ps : List GoType) (fuel : Nat) (hf : names.length * W + (c.fill (.ref n)).depth + 1 ≤ fuel) :
    schemaForType sreg env fuel ps (c.fill (.ref n)) = .err := by
  have h1 := total sreg env names W hb ps (c.fill (.ref n)) fuel hf
  have h2 := cyclic_not_ok sreg env c hc hi n henv fuel ps
  cases h : schemaForType sreg env fuel ps (c.fill (.ref n)) with
  | ok s => exact absurd h (h2 s)
  | err => rfl
  | overflow => exact absurd h h1

/-- `type Rec struct { V int64; Next *Rec `json:"next,omitempty"` }` -/
def recT : GoType :=
  .struct "Rec" "example.com/p" [.mk "V" true "" "" (.int 64), .mk "Next" true "next,omitempty" "" (.ptr (.ref "Rec"))]
def recEnv : TEnv := fun n => if n = "Rec" then some recT else none
theorem recEnv_bound : EnvBound recEnv ["Rec"] 3 := by
  refine ⟨?_, ?_, ?_⟩ <;> intro n t h <;> simp only [recEnv] at h <;> split at h <;> cases h
  · simp [*]
  · intro m hm; cases hm
  · decide

/-- non-vacuity of `cyclic_is_error`: the hypotheses hold for `Rec` … -/
example : EnvBound recEnv ["Rec"] 3 := recEnv_bound
/-- … and the model reports the error. -/
example : schemaForType SReg.empty recEnv 7 [] recT = .err :=
  cyclic_is_error SReg.empty recEnv ["Rec"] 3 recEnv_bound
    (.field "Rec" "example.com/p" [.mk "V" true "" "" (.int 64)] "Next" "next,omitempty" "" (.ptr .hole) [])
    nofun ⟨by decide +kernel, trivial⟩ "Rec" rfl [] 7 (by decide)

/-- `type S []S` as a struct field (a recursive non-struct type: checked since /repo f1a4f87): an error as well. -/
example : schemaForType SReg.empty (fun n => if n = "S" then some (.custom 1 (.slice (.ref "S"))) else none) 5 []
    (.struct "T" "p" [.mk "F" true "" "" (.custom 1 (.slice (.ref "S")))]) = .err := by rfl

/-- **Deterministic**: the result is a function of the type, the environment and the *contents* of
the schema registry: two registries that answer every lookup alike give the same result. The generator
reads the registry through `sregLookup` only: `gen_congr` on the set of all types. -/
theorem deterministic (sreg sreg' : SReg) (env : TEnv) (h : ∀ t, sregLookup sreg t = sregLookup sreg' t)
    (fuel : Nat) (ps : List GoType) (T : GoType) :
    schemaForType sreg env fuel ps T = schemaForType sreg' env fuel ps T :=
  gen_congr (fun _ => True) (fun t _ => h t) (fun _ _ _ _ => trivial)
    (fun rec rec' t _ hrec => by rw [funext fun e => hrec e trivial]) fuel ps T trivial

section mapping
variable (sreg : SReg) (env : TEnv) (fuel : Nat) (ps : List GoType)

/-- bool ↦ boolean -/
theorem mapping_bool : schemaForType sreg env (fuel + 1) ps .bool = .ok (.prim "boolean") := rfl
/-- integers (int, int8 … int64) ↦ long -/
theorem mapping_int (w : Nat) : schemaForType sreg env (fuel + 1) ps (.int w) = .ok (.prim "long") := rfl
/-- floats ↦ double -/
theorem mapping_float32 : schemaForType sreg env (fuel + 1) ps .float32 = .ok (.prim "double") := rfl
theorem mapping_float64 : schemaForType sreg env (fuel + 1) ps .float64 = .ok (.prim "double") := rfl
/-- string ↦ string -/
theorem mapping_string : schemaForType sreg env (fuel + 1) ps .string = .ok (.prim "string") := rfl

/-- a named type without a registration is mapped by its kind (`type Count int64` ↦ long, …) -/
theorem mapping_named_scalar (id : Nat) (u : GoType) (hreg : sregLookup sreg (.custom id u) = none)
    (hu : u = .bool ∨ (∃ w, u = .int w) ∨ u = .float32 ∨ u = .float64 ∨ u = .string) :
    schemaForType sreg env (fuel + 1) ps (.custom id u) = schemaForType sreg env (fuel + 1) ps u := by
  rw [mapping_kind hreg (fun _ => GoType.noConfusion)]
  rcases hu with rfl | ⟨w, rfl⟩ | rfl | rfl | rfl <;> rfl

/-- registered types ↦ their registered schema, before anything else is looked at -/
theorem mapping_registered (t : GoType) (s : Schema) (h : sregLookup sreg t = some s) :
    schemaForType sreg env (fuel + 1) ps t = .ok s := by
  have hr : ∀ n, t ≠ .ref n := by intro n hn; subst hn; simp [sregLookup] at h
  rw [schemaForType_succ, genStep_nonref hr]; simp [genResolved, h]

/-- the library's own registrations -/
theorem mapping_time : schemaForType sreg env (fuel + 1) ps .time = .ok (nullableSchema (.prim "string")) := rfl
theorem mapping_null (k : NullKind) : schemaForType sreg env (fuel + 1) ps (.nullT k) = .ok (nullTSchema k) := rfl

/-- []byte ↦ bytes (also slices of named byte types) -/
theorem mapping_bytes (e : GoType) (he : isByteKind env e = true) (hps : ps.any (GoType.beq (.slice e)) = false) :
    schemaForType sreg env (fuel + 1) ps (.slice e) = .ok (.prim "bytes") := by
  rw [mapping_kind rfl (fun _ => GoType.noConfusion)]; simp [GoType.composite, hps, GoType.strip, genKind_slice, he]

/-- slices ↦ array of the element's schema -/
theorem mapping_slice (e : GoType) (he : isByteKind env e = false) (hps : ps.any (GoType.beq (.slice e)) = false) :
    schemaForType sreg env (fuel + 1) ps (.slice e) =
      (schemaForType sreg env fuel (ps ++ [.slice e]) e).map arraySchema := by
  rw [mapping_kind rfl (fun _ => GoType.noConfusion)]; simp [GoType.composite, hps, GoType.strip, genKind_slice, he]

/-- Go arrays are treated like slices -/
theorem mapping_array (n : Nat) (e : GoType) (he : isByteKind env e = false)
    (hps : ps.any (GoType.beq (.array n e)) = false) :
    schemaForType sreg env (fuel + 1) ps (.array n e) =
      (schemaForType sreg env fuel (ps ++ [.array n e]) e).map arraySchema := by
  rw [mapping_kind rfl (fun _ => GoType.noConfusion)]; simp [GoType.composite, hps, GoType.strip, genKind_array, he]

/-- string-keyed maps (also keys of a named string type) ↦ map of the value's schema -/
theorem mapping_map (k v : GoType) (hk : isStringKind env k = true) (hps : ps.any (GoType.beq (.map k v)) = false) :
    schemaForType sreg env (fuel + 1) ps (.map k v) =
      (schemaForType sreg env fuel (ps ++ [.map k v]) v).map mapSchema := by
  rw [mapping_kind rfl (fun _ => GoType.noConfusion)]; simp [GoType.composite, hps, GoType.strip, genKind_map, hk]

/-- maps with any other key kind cannot be expressed ⇒ error -/
theorem mapping_map_key (k v : GoType) (hk : isStringKind env k = false) :
    schemaForType sreg env (fuel + 1) ps (.map k v) = .err := by
  rw [mapping_kind rfl (fun _ => GoType.noConfusion)]; simp [GoType.composite, GoType.strip, genKind_map, hk]

/-- pointers ↦ the element's schema wrapped by `ptrWrap` (`ptrWrap_plain`, `ptrWrap_stays`) -/
theorem mapping_ptr (e : GoType) (hps : ps.any (GoType.beq (.ptr e)) = false) :
    schemaForType sreg env (fuel + 1) ps (.ptr e) =
      (schemaForType sreg env fuel (ps ++ [.ptr e]) e).map ptrWrap := by
  rw [mapping_kind rfl (fun _ => GoType.noConfusion)]; simp [GoType.composite, hps, GoType.strip, genKind_ptr]

/-- structs ↦ record named after the type, namespace from the package path, fields from the loop -/
theorem mapping_struct (name pkg : String) (fs : List GoField)
    (hps : ps.any (GoType.beq (.struct name pkg fs)) = false) :
    schemaForType sreg env (fuel + 1) ps (.struct name pkg fs) =
      (genFields (schemaForType sreg env fuel (ps ++ [.struct name pkg fs])) fs).map (recordSchema name pkg) := by
  rw [mapping_kind rfl (fun _ => GoType.noConfusion)]; simp [GoType.composite, hps, GoType.strip, genKind_struct]

/-- unsupported kinds (unsigned integers, complex, chan, func, interface, unsafe.Pointer) ⇒ error -/
theorem mapping_unsupported (t : GoType)
    (ht : (∃ w, t = .uint w) ∨ t = .complex ∨ t = .chan ∨ t = .func ∨ t = .iface ∨ t = .unsafeptr) :
    schemaForType sreg env (fuel + 1) ps t = .err := by
  rcases ht with ⟨w, rfl⟩ | rfl | rfl | rfl | rfl | rfl <;> rfl

/-- … also under a name (`type Flags uint32`) -/
theorem mapping_unsupported_named (id : Nat) (t : GoType) (hreg : sregLookup sreg (.custom id t) = none)
    (ht : (∃ w, t = .uint w) ∨ t = .complex ∨ t = .chan ∨ t = .func ∨ t = .iface ∨ t = .unsafeptr) :
    schemaForType sreg env (fuel + 1) ps (.custom id t) = .err := by
  rw [mapping_kind hreg (fun _ => GoType.noConfusion)]
  rcases ht with ⟨w, rfl⟩ | rfl | rfl | rfl | rfl | rfl <;> rfl

end mapping

/-- pointer to a type whose schema is neither union nor array nor map: `[null, T]`, null first -/
theorem ptrWrap_plain (u : Schema) (h1 : u.type ≠ "union") (h2 : u.type ≠ "array") (h3 : u.type ≠ "map") :
    ptrWrap u = .mk "union" none [.prim "null", u] :=
  ptrWrap_eq_nullable u h1 h2 h3

/-- pointers to slices and maps stay plain arrays and maps; a union is never wrapped again -/
theorem ptrWrap_stays (u : Schema) (h : u.type = "union" ∨ u.type = "array" ∨ u.type = "map") : ptrWrap u = u :=
  ptrWrap_eq_self u h

/-- `omitempty` ⇒ `[null, T]` with null first … -/
theorem omitWrap_plain (s : Schema) (h : s.type ≠ "union") :
    omitWrap true s = .mk "union" none [.prim "null", s] :=
  omitWrap_true h
/-- … unless the type's schema already is a union -/
theorem omitWrap_union (s : Schema) (h : s.type = "union") : omitWrap true s = s := by simp [omitWrap, h]
theorem omitWrap_off (s : Schema) : omitWrap false s = s := omitWrap_false s

/-- **Fields**: a successful field loop yields exactly the included fields, in declaration order,
under their JSON names, each typed by the schema of its Go type (nullable when `omitempty`). -/
theorem fields_spec (rec : GoType → Gen Schema) (fs : List GoField) (r : List SchemaField) :
    genFields rec fs = .ok r ↔ FieldsOf rec fs r := genFields_ok_iff rec fs r

/-- the names of the generated fields are the JSON names of the included Go fields, in order -/
theorem fields_names (rec : GoType → Gen Schema) (fs : List GoField) (r : List SchemaField)
    (h : genFields rec fs = .ok r) :
    r.map SchemaField.name = (fs.map nameForField).filter (· != "-") :=
  fieldsOf_names ((genFields_ok_iff rec fs r).mp h)

/-- unexported fields are excluded -/
theorem excluded_unexported (n j b : String) (t : GoType) : nameForField (.mk n false j b t) = "-" := by
  simp [nameForField, GoField.exported]
/-- `bq:"-"` excludes a field -/
theorem excluded_bq (n j : String) (e : Bool) (t : GoType) : nameForField (.mk n e j "-" t) = "-" := by
  cases e <;> simp [nameForField, GoField.exported, GoField.bqTag]
theorem excluded_json_name_dash (n j b : String) (e : Bool) (t : GoType)
    (h : String.ofList ((splitCommas j.toList).headD []) = "-") : nameForField (.mk n e j b t) = "-" := by
  simp only [nameForField, GoField.exported, GoField.bqTag, GoField.jsonTag, h]
  split
  · rfl
  · split <;> rfl
/-- `json:"-"` excludes a field, with or without further options -/
theorem excluded_json_dash (n b : String) (e : Bool) (t : GoType) : nameForField (.mk n e "-" b t) = "-" :=
  excluded_json_name_dash n "-" b e t (by decide)
theorem excluded_json_dash_comma (n b : String) (e : Bool) (t : GoType) : nameForField (.mk n e "-," b t) = "-" :=
  excluded_json_name_dash n "-," b e t (by decide)
/-- without a JSON name the Go field name is used -/
theorem name_default (n b : String) (t : GoType) (hb : b ≠ "-") : nameForField (.mk n true "" b t) = n := by
  have h : String.ofList ((splitCommas "".toList).headD []) = "" := by decide
  have hb' : (b == "-") = false := by simpa using hb
  simp only [nameForField, GoField.exported, GoField.bqTag, GoField.jsonTag, GoField.name, h, hb']
  rfl
/-- concrete tag combinations of the statement -/
example : nameForField (.mk "F" true "n,omitempty,string" "" .bool) = "n" ∧ omitEmptyTag "n,omitempty,string" = true := by decide +kernel
example : nameForField (.mk "F" true ",omitempty" "" .bool) = "F" ∧ omitEmptyTag ",omitempty" = true := by decide +kernel
example : nameForField (.mk "F" true "omitempty" "" .bool) = "omitempty" ∧ omitEmptyTag "omitempty" = false := by decide +kernel
example : omitEmptyTag "n,omitemptyX" = false ∧ omitEmptyTag "n,string,omitempty" = true := by decide +kernel

/-- the namespace is the package path with `/` ↦ `.` and `-` ↦ `_` -/
example : namespaceOf "github.com/some-org/pkg" = "github.com.some_org.pkg" := by decide +kernel

/-- `map[int]string` is an error, `map[Key]string` with `type Key string` is a map -/
example : schemaForType SReg.empty TEnv.empty 3 [] (.struct "T" "p" [.mk "M" true "" "" (.map (.int 64) .string)]) = .err := by rfl
example : schemaForType SReg.empty TEnv.empty 3 [] (.map (.custom 7 .string) .string) = .ok (mapSchema (.prim "string")) := by rfl

/-- `*[]T` and `*map[string]T` stay plain, `*T` and `**T` become `[null, T]` (one union, null first) -/
example : schemaForType SReg.empty TEnv.empty 5 [] (.ptr (.slice .string)) = .ok (arraySchema (.prim "string")) := by rfl
example : schemaForType SReg.empty TEnv.empty 5 [] (.ptr (.map .string .bool)) = .ok (mapSchema (.prim "boolean")) := by rfl
example : schemaForType SReg.empty TEnv.empty 5 [] (.ptr (.ptr (.int 32))) = .ok (nullableSchema (.prim "long")) := by rfl
example : schemaForType SReg.empty TEnv.empty 5 [] (.ptr .time) = .ok (nullableSchema (.prim "string")) := by rfl

/-- **Unions never repeat a branch**: every union that occurs is exactly `[null, X]`, null first, with
`X` not null (and not a union): two branches of different kinds. -/
theorem no_dup_branch (sreg : SReg) (env : TEnv) (hreg : RegSchemasFlat sreg) (fuel : Nat) (ps : List GoType)
    (T : GoType) (S : Schema) (h : schemaForType sreg env fuel ps T = .ok S)
    (u : Schema) (hu : Sub u S) (hut : u.type = "union") :
    ∃ x, u.union = [.prim "null", x] ∧ x.type ≠ "null" ∧ x.type ≠ "union" := by
  have hok := unionsOk_sub (gen_unionsOk sreg env hreg fuel ps T S h).1 hu
  obtain ⟨t, o, br⟩ := u
  obtain ⟨x, hx, h1, h2⟩ := unionsOk_top hok hut
  exact ⟨x, hx, h2, h1⟩

/-- **Unions never nest directly**: in every schema generated for any type, under any registry whose
registered schemas are themselves flat, every union `u` that occurs anywhere has no union among its
branches. -/
theorem no_nested_union (sreg : SReg) (env : TEnv) (hreg : RegSchemasFlat sreg) (fuel : Nat) (ps : List GoType)
    (T : GoType) (S : Schema) (h : schemaForType sreg env fuel ps T = .ok S)
    (u : Schema) (hu : Sub u S) (hut : u.type = "union") : ∀ b ∈ u.union, b.type ≠ "union" := by
  obtain ⟨x, hx, _, h1⟩ := no_dup_branch sreg env hreg fuel ps T S h u hu hut
  intro b hb
  simp only [hx, List.mem_cons, List.mem_nil_iff, or_false] at hb
  rcases hb with rfl | rfl
  · decide
  · exact h1

/-- the library's own registrations satisfy the hypothesis -/
example : RegSchemasFlat SReg.empty := by intro id s h; simp [SReg.empty, assocLookup] at h

/-- non-vacuity: `struct{ P **time.Time `json:",omitempty"` }` has a union, and it is flat -/
example : schemaForType SReg.empty TEnv.empty 6 []
    (.struct "T" "p" [.mk "P" true ",omitempty" "" (.ptr (.ptr .time))]) =
    .ok (recordSchema "T" "p" [.mk "P" (nullableSchema (.prim "string"))]) := by rfl

/-- A generated schema is never the bare `null` schema (so wrapping it gives no `[null, null]`). -/
theorem never_null (sreg : SReg) (env : TEnv) (hreg : RegSchemasFlat sreg) (fuel : Nat) (ps : List GoType)
    (T : GoType) (S : Schema) (h : schemaForType sreg env fuel ps T = .ok S) : S.type ≠ "null" :=
  (gen_unionsOk sreg env hreg fuel ps T S h).2

/-- full statement: the named records of a generated schema are pairwise distinct -/
def named_once_full : Prop :=
  ∀ (sreg : SReg) (fuel : Nat) (T : GoType) (S : Schema),
    RegSchemasNameless sreg → schemaForType sreg TEnv.empty fuel [] T = .ok S → S.recordNames.Nodup

/-- `type Inner struct{A int64; B string}; type Twice struct{X Inner; Y Inner}` -/
def innerT : GoType := .struct "Inner" "main" [.mk "A" true "" "" (.int 64), .mk "B" true "" "" .string]
def twiceT : GoType := .struct "Twice" "main" [.mk "X" true "" "" innerT, .mk "Y" true "" "" innerT]

/-- **Counter-witness (D22)**: the struct type used in two positions is defined twice. -/
theorem named_once_witness : ¬ named_once_full := by
  intro h
  have hgen : schemaForType SReg.empty TEnv.empty 4 [] twiceT =
      .ok (recordSchema "Twice" "main" [.mk "X" (recordSchema "Inner" "main" [.mk "A" (.prim "long"), .mk "B" (.prim "string")]),
        .mk "Y" (recordSchema "Inner" "main" [.mk "A" (.prim "long"), .mk "B" (.prim "string")])]) := by rfl
  have := h SReg.empty 4 twiceT _ (by intro id s h; simp [SReg.empty, assocLookup] at h) hgen
  revert this
  simp [recordNames_record, SchemaField.recordNamesList, recordNames_prim]

/-- **Partial**: when no named struct type occurs twice in the type tree (and the registered schemas
define no named records), every named record of the generated schema is defined once. -/
theorem named_once_partial (sreg : SReg) (hreg : RegSchemasNameless sreg) (fuel : Nat) (ps : List GoType)
    (T : GoType) (S : Schema) (hT : T.structNames.Nodup)
    (h : schemaForType sreg TEnv.empty fuel ps T = .ok S) : S.recordNames.Nodup :=
  List.Nodup.sublist (gen_recordNames sreg hreg fuel ps T S h) hT

/-- non-vacuity of `named_once_partial` -/
example : (GoType.struct "Once" "main" [.mk "X" true "" "" innerT, .mk "N" true "" "" (.int 32)]).structNames.Nodup := by
  simp [GoType.structNames, GoField.structNamesList, innerT]

/-- full statement: every record of a generated schema has pairwise distinct field names -/
def field_names_unique_full : Prop :=
  ∀ (sreg : SReg) (fuel : Nat) (T : GoType) (S : Schema),
    RegSchemasFieldsUnique sreg → schemaForType sreg TEnv.empty fuel [] T = .ok S → S.FieldsUnique

/-- `struct{ A int64 `json:"x"`; B int64 `json:"x"` }` -/
def dupJsonT : GoType := .struct "Dup" "main" [.mk "A" true "x" "" (.int 64), .mk "B" true "x" "" (.int 64)]

/-- **Counter-witness (D24)**: two fields with the same JSON name give a record with two fields `x`. -/
theorem field_names_unique_witness : ¬ field_names_unique_full := by
  intro h
  have hgen : schemaForType SReg.empty TEnv.empty 3 [] dupJsonT =
      .ok (recordSchema "Dup" "main" [.mk "x" (.prim "long"), .mk "x" (.prim "long")]) := by rfl
  have := h SReg.empty 3 dupJsonT _ (by intro id s h; simp [SReg.empty, assocLookup] at h) hgen
  revert this
  simp [recordSchema, Schema.FieldsUnique, SchemaObject.fields, SchemaField.name]

/-- **Partial**: when the JSON names of the included fields are distinct in every struct of the type
tree (and the registered schemas have unique field names), so are the field names of every record. -/
theorem field_names_unique_partial (sreg : SReg) (hreg : RegSchemasFieldsUnique sreg) (fuel : Nat) (ps : List GoType)
    (T : GoType) (S : Schema) (hT : T.JsonNamesDistinct)
    (h : schemaForType sreg TEnv.empty fuel ps T = .ok S) : S.FieldsUnique :=
  gen_fieldsUnique sreg hreg fuel ps T S hT h

/-- non-vacuity of `field_names_unique_partial` -/
example : innerT.JsonNamesDistinct := by
  simp only [innerT, GoType.JsonNamesDistinct, GoField.JsonNamesDistinctList, and_true]
  decide

/-- **The generated schema is accepted by codec construction** for the same Go type, for the fragment
`GoType.Supported` (bool, int16/32/64, floats, string, []byte, slices, string-keyed maps, pointers,
structs with distinct JSON names — excluded fields may have any type), under every codec registry:
from some fuel on `buildCodec` succeeds, for either value of the `omit` flag.
Outside the fragment a codec may be refused with an error (int8, Go arrays, named string keys are
examples the correspondence run exhibits); that is the "or refused with an error" of the property. -/
theorem codec_builds (reg : Reg) (sreg : SReg) (env : TEnv) (hflat : RegSchemasFlat sreg) (T : GoType)
    (hT : T.Supported) (m : Nat) (ps : List GoType) (S : Schema) (h : schemaForType sreg env m ps T = .ok S) :
    ∃ N, ∀ fuel, N ≤ fuel → ∀ oe, ∃ c, buildCodec reg fuel S (some T) oe = .ok c := by
  obtain ⟨N, hN⟩ := (codec_builds_aux reg sreg env m ps T S h hT).whole
  exact ⟨N, fun fuel hf oe => hN oe fuel hf⟩

/-- `struct{ A int32; B *[]string `json:"b,omitempty"`; C map[string]*float32; d chan int }` -/
def supportedT : GoType :=
  .struct "S" "p" [.mk "A" true "" "" (.int 32), .mk "B" true "b,omitempty" "" (.ptr (.slice .string)),
    .mk "C" true "" "" (.map .string (.ptr .float32)), .mk "d" false "" "" .chan]

/-- non-vacuity of `codec_builds`: the type is in the fragment, a schema is generated … -/
example : supportedT.Supported := by
  simp only [supportedT, GoType.Supported, GoField.SupportedList]
  refine ⟨by decide, Or.inr (Or.inr (Or.inl trivial)), Or.inr (Or.inr trivial), Or.inr ⟨trivial, trivial⟩,
    Or.inl (by decide), trivial⟩
example : ∃ S, schemaForType SReg.empty TEnv.empty 6 [] supportedT = .ok S := ⟨_, rfl⟩

/-- `codec_total`: `buildCodec` has no other outcome than a codec or an error. In the model that is its result
type `Except String Codec` (Build.lean), not a fact proved here; that the Go function has no `panic` path of
its own (every nil check precedes the dereference it guards) is what the correspondence run exercises on
every generated schema. A refusal that is proved: `buildCodec_goarray_inv`. -/
theorem codec_total (reg : Reg) (fuel : Nat) (S : Schema) (T : GoType) (oe : Bool) :
    (∃ c, buildCodec reg fuel S (some T) oe = .ok c) ∨ (∃ e, buildCodec reg fuel S (some T) oe = .error e) := by
  cases buildCodec reg fuel S (some T) oe with
  | ok c => exact Or.inl ⟨c, rfl⟩
  | error e => exact Or.inr ⟨e, rfl⟩

end Avro.C15
