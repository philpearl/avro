import AvroModel.Props.C02
/-!
# C02 (container clause) for the file writer driven directly

`C02.container_valid` is about Encode / Flush histories. A program may call `FileWriter.WriteHeader` and
`WriteBlock(w, rows, data)` itself — with any row count and any payload, in particular `rows = 0` with an empty payload,
which the Encoder never writes and the Avro container format allows. For every such history the bytes after the header are
read by the specification's block reader (`Avro.Spec.readBlocks`, written from the specification, sharing nothing with the
library's reader model) as exactly those blocks: declared counts, exact sizes, matching markers, nothing left over.
-/
namespace Avro.C02
open Avro

theorem directChunks_flatten (cfg : EncCfg) (bl : List (Nat × Bytes)) :
    ((bl.map fun b => FwOp.block b.1 b.2).flatMap (fwChunks cfg)).flatten = (bl.map (directFrame cfg)).flatten := by
  induction bl with
  | nil => rfl
  | cons b bl ih => simp only [List.map_cons, List.flatMap_cons, List.flatten_append, List.flatten_cons, ih]; rfl

theorem direct_blocks_output (cfg : EncCfg) : ∀ (bl : List (Nat × Bytes)) (i : Nat) (w : WState), w.Free →
    (fwRunFrom cfg (bl.map fun b => FwOp.block b.1 b.2) i w).2 = none ∧
    (fwRunFrom cfg (bl.map fun b => FwOp.block b.1 b.2) i w).1.accepted = w.accepted ++ (bl.map (directFrame cfg)).flatten := by
  intro bl i w h
  rw [← directChunks_flatten]
  exact fwRunFrom_free cfg _ i h

/-- **C02, container clause, direct use.** `WriteHeader` followed by any `WriteBlock` calls — any row counts, empty blocks
included — leaves `header ++ body` where the specification's block reader reads `body` as exactly the blocks written. -/
theorem direct_container_valid (cfg : EncCfg) (hs : cfg.sync.length = 16) (bl : List (Nat × Bytes))
    (hsz : ∀ b ∈ bl, inRange 64 (b.1 : Int) ∧ inRange 64 ((cfg.compress b.2).length : Int)) :
    ∃ w' body, fwRunFrom cfg (FwOp.header :: bl.map fun b => FwOp.block b.1 b.2) 0 {} = (w', none) ∧
      w'.accepted = cfg.header ++ body ∧
      Spec.readBlocks cfg.sync (bl.length + 1) body = some (bl.map fun b => { count := (b.1 : Int), payload := cfg.compress b.2 }) := by
  obtain ⟨h1, h2⟩ := fwRunFrom_free cfg (FwOp.header :: bl.map fun b => FwOp.block b.1 b.2) 0 (w := {}) rfl
  refine ⟨_, (bl.map (directFrame cfg)).flatten, Prod.ext rfl h1, ?_, spec_reader_reads_direct cfg hs bl hsz⟩
  rw [h2, ← directChunks_flatten]; simp [fwChunks]

/-! non-vacuity: header, an empty block, a block of two records, another empty block -/
example :
    let cfg : EncCfg := { blockSize := 0, compress := id, sync := List.replicate 16 0xAA, header := [0x4F] }
    (Spec.readBlocks cfg.sync 4 ((fwRunFrom cfg [.header, .block 0 [], .block 2 [2, 5, 2, 6], .block 0 []] 0 {}).1.accepted.drop 1)).map
      (fun bl => bl.map fun b => (b.count, b.payload)) = some [(0, []), (2, [2, 5, 2, 6]), (0, [])] := by decide +kernel

end Avro.C02
