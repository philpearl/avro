import AvroModel.Props.C16
/-!
# C16 for the file writer used directly

`C16.accepted_prefix` / `error_surfaces` are about histories of `Encode` / `Flush` calls. The property also names
"file-writer calls": a program may drive `FileWriter.WriteHeader` / `WriteBlock` itself, with any row count —
including `0` and an empty block, which the Encoder never writes. The same two clauses hold for every such history.
(That no call panics is not a statement about the model, whose functions are total; the correspondence stream
`fwd` executes the real `WriteBlock` at every failing write index and reports a panic as a failing input.)
-/
namespace Avro.C16
open Avro

/-- **C16 (clean prefix), direct use**: for every history of `WriteHeader` / `WriteBlock` calls — any row counts,
empty blocks included —, every failing write index `k` and every number `acc` of bytes that write accepted, what the
destination accepted is a byte-for-byte prefix of what the fault-free run writes. -/
theorem direct_accepted_prefix (cfg : EncCfg) (k acc : Nat) (ops : List FwOp) :
    (fwRunFrom cfg ops 0 { failAt := k, accept := acc }).1.accepted <+: (fwRunFrom cfg ops 0 {}).1.accepted := by
  rw [(fwRunFrom_writes cfg ops 0 _).1, (fwRunFrom_writes cfg ops 0 _).1]
  exact writeAll_prefix (w := { failAt := k, accept := acc }) (w0 := {}) rfl rfl _

theorem direct_fault_free (cfg : EncCfg) (ops : List FwOp) : (fwRunFrom cfg ops 0 {}).2 = none :=
  (fwRunFrom_free cfg ops 0 (w := {}) rfl).1

theorem fwRunFrom_surfaces (cfg : EncCfg) {k : Nat} (ops : List FwOp) : ∀ (i : Nat) (w : WState), Before k w →
    match (fwRunFrom cfg ops i w).2 with
    | some _ => (fwRunFrom cfg ops i w).1.calls = k
    | none => Before k (fwRunFrom cfg ops i w).1 :=
  fun i w h => surfaces_of_writes h (fwRunFrom_writes cfg ops i w).1 (fwRunFrom_writes cfg ops i w).2

/-- **C16 (the error surfaces), direct use**: the call reported as failed is the one that issued write `k`
(exactly `k` writes had been issued when it returned, every earlier call returned success); if no call is reported
as failed, fewer than `k` writes were issued at all. -/
theorem direct_error_surfaces (cfg : EncCfg) (k acc : Nat) (hk : 0 < k) (ops : List FwOp) :
    match (fwRunFrom cfg ops 0 { failAt := k, accept := acc }).2 with
    | some _ => (fwRunFrom cfg ops 0 { failAt := k, accept := acc }).1.calls = k
    | none => (fwRunFrom cfg ops 0 { failAt := k, accept := acc }).1.calls < k :=
  calls_of_writes ⟨rfl, hk⟩ (fwRunFrom_writes cfg ops 0 _).1 (fwRunFrom_writes cfg ops 0 _).2

/-! Non-vacuity: header, an EMPTY block (row count 0), a block of one record; the data write of the empty block
(write 4) fails. The failing call is call 1 and the destination holds header, count 0 and length 0. -/
example :
    let cfg : EncCfg := { blockSize := 0, compress := id, sync := [9, 9], header := [7] }
    let ops : List FwOp := [.header, .block 0 [], .block 1 [2, 5]]
    (fwRunFrom cfg ops 0 { failAt := 4, accept := 0 }).2 = some 1 ∧
    (fwRunFrom cfg ops 0 { failAt := 4, accept := 0 }).1.accepted = [7, 0, 0] ∧
    (fwRunFrom cfg ops 0 {}).1.accepted = [7, 0, 0, 9, 9, 2, 4, 2, 5, 9, 9] := by
  decide +kernel

end Avro.C16
