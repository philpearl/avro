import AvroModel.Lemmas.ReadOk
import AvroModel.Lemmas.BuildOk
import AvroModel.Props.C07
/-!
# C03 — Reader decodes every spec-legal encoding of a datum to that datum

Model: `Codec.lean` (`read`), `Build.lean` (`buildCodec`), specification: `Wire.lean` (`encode` indexed by
the writer's `Plan`), `Sem.lean` (`ofAvro`: the Go value a datum denotes for a codec; `classify`).
Quantifiers: every schema the specification defines, every datum, every plan (any block partition,
with or without byte-size prefixes; null in either union position; single-, multi-branch unions),
every Go target for which construction succeeds, every trailing input, every step budget.
-/
namespace Avro.C03
open Avro

variable (env : Env)

/-- **Main theorem.** If the library builds a decoder `c` for schema `s` and Go type `T`, then on any
legal encoding `bs` (plan `p`) of any datum `v` of `s`, followed by anything (`rest`), `read` returns the
Go value the datum denotes and leaves exactly `rest`; a datum that does not fit the target is an
error, never a truncated value. (`ReadSpec` spells this out; `fuel` = step budget exhausted.) -/
theorem decode (reg : Reg) (hreg : ∀ id, reg.custom id = none) (nb fa n m : Nat)
    (s : Schema) (T : Option GoType) (oe : Bool) (c : Codec) (a : ASchema)
    (p : Plan) (v : Value) (bs rest : Bytes) (dst : GoVal)
    (hb : buildCodec reg nb s T oe = .ok c) (hc : classify fa s = some a) (he : encode p a v = some bs) :
    ReadSpec (read env n c (bs ++ rest) dst) (ofAvro env m c v dst) rest :=
  read_spec env ((buildOkAt reg hreg nb).build s T oe c hb fa a hc) he n m rest dst

theorem decode_ok (c : Codec) (a : ASchema) (hcf : CodecFor c a) (n m : Nat) (p : Plan) (v : Value) (bs rest : Bytes)
    (dst g : GoVal) (he : encode p a v = some bs) (hfit : ofAvro env m c v dst = .ok g) :
    read env n c (bs ++ rest) dst = .ok (g, rest) ∨ read env n c (bs ++ rest) dst = .fuel := by
  have := read_spec env hcf he n m rest dst
  rw [hfit] at this; exact this

/-- the datum does not fit the Go field (integer out of range for the field's width, unparsable
timestamp): an error is reported — never a silently truncated value -/
theorem misfit_is_error (c : Codec) (a : ASchema) (hcf : CodecFor c a) (n m : Nat) (p : Plan) (v : Value) (bs rest : Bytes)
    (dst : GoVal) (he : encode p a v = some bs) (hfit : ofAvro env m c v dst = .misfit) :
    read env n c (bs ++ rest) dst = .err ∨ read env n c (bs ++ rest) dst = .fuel := by
  have := read_spec env hcf he n m rest dst
  rw [hfit] at this; exact this

/-- **Main theorem with an explicit step budget.** As `decode`, for every step budget
`n ≥ readBudget c v = Codec.sz c + 2 * Value.sz v + 2` — a function of the codec tree and the datum only
(not of the writer's plan, the destination or the trailing input). The result is exact: the datum's
value and exactly `rest` when the datum fits (`ofAvro … = .ok g`), `.err` when it does not
(`.misfit`); for combinations typing excludes (`.illtyped`) the call still finishes (`≠ .fuel`).
`ReadExact` spells out these three cases; no alternative "out of budget" remains. -/
theorem decode_budget (reg : Reg) (hreg : ∀ id, reg.custom id = none) (nb fa n m : Nat)
    (s : Schema) (T : Option GoType) (oe : Bool) (c : Codec) (a : ASchema)
    (p : Plan) (v : Value) (bs rest : Bytes) (dst : GoVal)
    (hb : buildCodec reg nb s T oe = .ok c) (hc : classify fa s = some a) (he : encode p a v = some bs)
    (hn : readBudget c v ≤ n) :
    ReadExact (read env n c (bs ++ rest) dst) (ofAvro env m c v dst) rest :=
  read_budget_spec env ((buildOkAt reg hreg nb).build s T oe c hb fa a hc) he hn rest m dst

theorem decode_ok_budget (c : Codec) (a : ASchema) (hcf : CodecFor c a) (n m : Nat) (p : Plan) (v : Value) (bs rest : Bytes)
    (dst g : GoVal) (he : encode p a v = some bs) (hfit : ofAvro env m c v dst = .ok g) (hn : readBudget c v ≤ n) :
    read env n c (bs ++ rest) dst = .ok (g, rest) :=
  read_exact env hcf he hn rest hfit

theorem misfit_is_error_budget (c : Codec) (a : ASchema) (hcf : CodecFor c a) (n m : Nat) (p : Plan) (v : Value) (bs rest : Bytes)
    (dst : GoVal) (he : encode p a v = some bs) (hfit : ofAvro env m c v dst = .misfit) (hn : readBudget c v ≤ n) :
    read env n c (bs ++ rest) dst = .err :=
  read_misfit env hcf he hn rest hfit

theorem int_out_of_range (m w : Nat) (o : Bool) (i : Int) (dst : GoVal) (h : ¬ inRange w i) :
    ofAvro env (m + 1) (.int w o) (.int i) dst = .misfit := by
  rw [ofAvro_int, if_neg h]

/-- arrays split into several blocks decode to the concatenation, in order: the expected value of an
array only depends on the item list, not on the plan -/
theorem array_plan_irrelevant (c : Codec) (a : ASchema) (hcf : CodecFor c a) (n m : Nat) (p p' : Plan) (v : Value)
    (bs bs' rest : Bytes) (dst g : GoVal) (he : encode p a v = some bs) (he' : encode p' a v = some bs')
    (hfit : ofAvro env m c v dst = .ok g) :
    (read env n c (bs ++ rest) dst = .ok (g, rest) ∨ read env n c (bs ++ rest) dst = .fuel) ∧
    (read env n c (bs' ++ rest) dst = .ok (g, rest) ∨ read env n c (bs' ++ rest) dst = .fuel) :=
  ⟨decode_ok env c a hcf n m p v bs rest dst g he hfit, decode_ok env c a hcf n m p' v bs' rest dst g he' hfit⟩

theorem read_never_panics (n : Nat) (c : Codec) (bs : Bytes) (dst : GoVal) : read env n c bs dst ≠ .panic :=
  read_ne_panic env n c bs dst

/-! Non-vacuity: a two-block, size-prefixed array of longs in a nullable union (null second) -/
example :
    encode (.node [] [.node [(1, true), (2, false)] [.leaf, .leaf, .leaf]])
      (.union [.array .long, .null]) (.union 0 (.array [.int 1, .int (-1), .int 64])) =
      some [0, 1, 2, 2, 4, 1, 0x80, 0x01, 0] := exUnionArray_encode

/-- non-vacuity of `decode_ok_budget`: that encoding read into an empty slice with budget
`readBudget = 2 + 2 * 5 + 2 = 14`, whatever follows -/
example (rest : Bytes) :
    read env 14 (.unionOne (.array (.int 64 false) false) 0) ([0, 1, 2, 2, 4, 1, 0x80, 0x01, 0] ++ rest) (.slice []) =
      .ok (.slice [.int 1, .int (-1), .int 64], rest) :=
  decode_ok_budget env _ (.union [.array .long, .null]) (.unionOne0 (.array .intL)) 14 4
    (.node [] [.node [(1, true), (2, false)] [.leaf, .leaf, .leaf]]) (.union 0 (.array [.int 1, .int (-1), .int 64])) _ rest _ _
    exUnionArray_encode
    rfl
    (Nat.le_of_eq exUnionArray_budget)

/-- non-vacuity of `misfit_is_error_budget`: 300 does not fit an `int8` field -/
example (rest : Bytes) : read env 2 (.int 8 false) ([0xd8, 0x04] ++ rest) (.int 0) = .err :=
  misfit_is_error_budget env _ .long .intL 2 1 .leaf (.int 300) _ rest _
    (by simp [encode, writeVarint, zigzag, putUvarint, inRange])
    rfl
    (by simp [readBudget, Codec.sz, Value.sz])

/-! ### Whole files: any partition into file blocks, any of the three compression codecs -/

/-- one record of a file: a datum, the writer's plan for it, its encoding, and the Go value it denotes -/
structure Rec where
  v : Value
  p : Plan
  b : Bytes
  g : GoVal

/-- the record decoder of a file whose schema builds codec `c`: `Codec.Read` into a zeroed
destination, with the FIXED step budget `N` for every record -/
def recDecoder (N : Nat) (c : Codec) : File.RecCodec GoVal :=
  { decode := fun bs => read env N c bs (Codec.zero env c) }

/-- the file block holding the records `blk`, stored as `compress` of the concatenated encodings -/
def recBlk (compress : Bytes → Bytes) (blk : List Rec) : File.Blk GoVal :=
  { recs := blk.map (fun r => (r.g, r.b)), junk := [], payload := compress (blk.map (·.b)).flatten }

/-- **C03, whole files.** Any grouping `part` of records (empty groups allowed), each a legal encoding of a
datum of `s` under any plan, stored block by block with any `compress` that the reader's decompressor for the
header's codec undoes, behind any valid header: `readFile` delivers exactly the values `r.g`, in file order,
and succeeds, with ONE step budget `N` for every record, at least every record's `readBudget c r.v` (for
instance `readBudgetList c` of all the data). -/
theorem file_decode (c : Codec) (s : ASchema) (hcf : CodecFor c s) (m N : Nat) (part : List (List Rec))
    (henc : ∀ blk ∈ part, ∀ r ∈ blk, encode r.p s r.v = some r.b)
    (hfit : ∀ blk ∈ part, ∀ r ∈ blk, ofAvro env m c r.v (Codec.zero env c) = .ok r.g)
    (hN : ∀ blk ∈ part, ∀ r ∈ blk, readBudget c r.v ≤ N)
    {ε : Type} {X : File.Ext GoVal} {fuel : Nat} {hdr : Bytes} {H : File.Header} {sel : File.CodecSel}
    (hh : File.ValidHeader X fuel hdr H sel (recDecoder env N c))
    (compress : Bytes → Bytes) (hcomp : ∀ x, File.decompress X sel (compress x) = .ok x)
    (hsmall : ∀ blk ∈ part, (compress (blk.map (·.b)).flatten).length ≤ File.maxLen)
    (hcount : ∀ blk ∈ part, blk.length < 2 ^ 63) (hfuel : part.length < fuel)
    (cb : Nat → Option ε) (hcb : ∀ i, cb i = none) :
    File.readFile X fuel cb (hdr ++ File.body H.sync (part.map (recBlk compress))) =
      ⟨part.flatten.map (·.g), .ok⟩ := by
  have e : part.map (recBlk compress) = (part.map (·.map fun r => (r.g, r.b))).map (File.blkOfRecs compress) := by
    rw [List.map_map]
    exact List.map_congr_left fun blk _ => by simp [recBlk, File.blkOfRecs, List.map_map, Function.comp_def]
  have hv := File.validFile_of_parts hh compress hcomp (part.map (·.map fun r => (r.g, r.b)))
    (by
      intro blk hblk ve hve rest
      obtain ⟨b, hb, rfl⟩ := List.mem_map.mp hblk
      obtain ⟨r, hr, rfl⟩ := List.mem_map.mp hve
      exact read_exact env hcf (henc b hb r hr) (hN b hb r hr) rest (hfit b hb r hr))
    (by intro blk hblk; obtain ⟨b, hb, rfl⟩ := List.mem_map.mp hblk; simpa [List.map_map, Function.comp_def] using hsmall b hb)
    (by intro blk hblk; obtain ⟨b, hb, rfl⟩ := List.mem_map.mp hblk; simpa using hcount b hb)
    (by simpa using hfuel)
  rw [e, C07.delivers hv cb hcb, File.allVals_blkOfRecs]
  simp [List.map_flatten, List.map_map, Function.comp_def]

theorem file_budget_of_list (c : Codec) (N : Nat) (part : List (List Rec))
    (h : readBudgetList c (part.flatten.map (·.v)) ≤ N) : ∀ blk ∈ part, ∀ r ∈ blk, readBudget c r.v ≤ N := by
  intro blk hblk r hr
  refine Nat.le_trans (readBudget_le_list ?_) h
  exact List.mem_map.mpr ⟨r, List.mem_flatten.mpr ⟨blk, hblk, hr⟩, rfl⟩

/-! Non-vacuity of `file_decode`: arrays of longs; three records (a size-prefixed block, an empty
array, a two-block array) grouped as `[[r1, r2], [], [r3]]` (an empty file block included), stored
with a toy "deflate" (`compress` = reverse, undone by the reader's `inflate`), decoded with the
single budget `9 = readBudget` of the largest record. -/

def exC : Codec := .array (.int 64 false) false
def exR1 : Rec := ⟨.array [.int 1], .node [(1, true)] [.leaf], [1, 2, 2, 0], .slice [.int 1]⟩
def exR2 : Rec := ⟨.array [], .node [] [], [0], .slice []⟩
def exR3 : Rec := ⟨.array [.int 2, .int 3], .node [(1, false), (1, false)] [.leaf, .leaf], [2, 4, 2, 6, 0], .slice [.int 2, .int 3]⟩
def exPart : List (List Rec) := [[exR1, exR2], [], [exR3]]
def exXd : File.Ext GoVal :=
  { inflate := fun c => some c.reverse, unsnappy := fun c => some c, crc := fun _ => 0,
    build := fun _ => some (recDecoder env 9 exC) }
def exHdrD : Bytes := File.mkHeader [[(File.kSchema, [0x22]), (File.kCodec, File.vDeflate)]] C07.exSync

theorem mem_exPart {P : Rec → Prop} (h1 : P exR1) (h2 : P exR2) (h3 : P exR3) : ∀ blk ∈ exPart, ∀ r ∈ blk, P r := by
  intro blk hblk r hr
  simp only [exPart, List.mem_cons, List.not_mem_nil, or_false] at hblk
  rcases hblk with rfl | rfl | rfl
  · simp only [List.mem_cons, List.not_mem_nil, or_false] at hr
    rcases hr with rfl | rfl <;> assumption
  · simp at hr
  · simp only [List.mem_cons, List.not_mem_nil, or_false] at hr
    subst hr; assumption

example : File.readFile (exXd env) 5 (fun _ => (none : Option Unit))
    (exHdrD ++ File.body C07.exSync (exPart.map (recBlk List.reverse))) =
    ⟨[.slice [.int 1], .slice [], .slice [.int 2, .int 3]], .ok⟩ := by
  have hh : File.ValidHeader (exXd env) 5 exHdrD
      { «meta» := File.metaOf [[(File.kSchema, [0x22]), (File.kCodec, File.vDeflate)]], sync := C07.exSync } .deflate
      (recDecoder env 9 exC) :=
    C07.valid_mkHeader (exXd env) _ C07.exSync 5 (File.good_writerMeta _ _ (by decide) (by decide)) (by decide) (by decide)
      .deflate _ (by decide) ⟨[0x22], by decide, rfl⟩
  exact file_decode env exC (.array .long) (.array .intL) 2 9 exPart
    (mem_exPart (by decide +kernel) (by decide +kernel) (by decide +kernel))
    (mem_exPart rfl rfl rfl)
    (mem_exPart (by decide +kernel) (by decide +kernel) (by decide +kernel))
    hh List.reverse (fun x => by simp [File.decompress, exXd])
    (by decide +kernel) (by decide +kernel) (by decide) _ (fun _ => rfl)

end Avro.C03
