import AvroModel.Lemmas.ReadOk
import AvroModel.Lemmas.BuildOk
import AvroModel.Lemmas.WriteBudget  -- `fun_induction fieldsFit` below needs the auxiliaries that module's own use of it creates (a second copy clashes in the root module)
/-!
# C04 — Projection: fields the target struct lacks are skipped without side effects

`skip` consumes exactly the bytes of a datum (every codec, every datum, every plan including
multi-block and size-prefixed collections, every budget). The record part is stated about `fieldsFit`,
the value `read` of a record delivers (C03): fields that have no target are dropped and untargeted Go fields
left untouched; the value delivered into a remaining field depends only on that field's codec, datum and
initial value.
-/
namespace Avro.C04
open Avro

variable (env : Env)

/-- **Skip exactness**: skipping a datum leaves exactly what follows it. -/
theorem skip_exact (c : Codec) (a : ASchema) (hcf : CodecFor c a) (n : Nat) (p : Plan) (v : Value) (bs rest : Bytes)
    (he : encode p a v = some bs) :
    skip env n c (bs ++ rest) = .ok rest ∨ skip env n c (bs ++ rest) = .fuel :=
  skip_okOrFuel env hcf he n rest

/-- **Skip exactness with an explicit budget**: with at least `readBudget c v = Codec.sz c + 2 * Value.sz v + 2`
steps (a function of the codec tree and the datum only: not of the writer's plan, not of what follows),
skipping any legal encoding of `v` returns exactly what follows the datum — no "or out of budget"
alternative. -/
theorem skip_exact_budget (c : Codec) (a : ASchema) (hcf : CodecFor c a) (n : Nat) (p : Plan) (v : Value) (bs rest : Bytes)
    (he : encode p a v = some bs) (hn : readBudget c v ≤ n) :
    skip env n c (bs ++ rest) = .ok rest :=
  skip_budget env hcf he hn rest

theorem skip_exact_built_budget (reg : Reg) (hreg : ∀ id, reg.custom id = none) (nb fa n : Nat)
    (s : Schema) (T : Option GoType) (oe : Bool) (c : Codec) (a : ASchema) (p : Plan) (v : Value) (bs rest : Bytes)
    (hb : buildCodec reg nb s T oe = .ok c) (hc : classify fa s = some a) (he : encode p a v = some bs)
    (hn : readBudget c v ≤ n) :
    skip env n c (bs ++ rest) = .ok rest :=
  skip_exact_budget env c a ((buildOkAt reg hreg nb).build s T oe c hb fa a hc) n p v bs rest he hn

/-- non-vacuity: a map with a size-prefixed block and a plain block, skipped with budget
`readBudget = 0 + 1 + 2 * 3 + 2 = 9`, whatever follows -/
example (rest : Bytes) :
    skip env 9 (.map (.int 64 false) false) ([1, 6, 2, 97, 2, 2, 2, 98, 4, 0] ++ rest) = .ok rest :=
  skip_exact_budget env (.map (.int 64 false) false) (.map .long) (.map .intL) 9
    (.node [(1, true), (1, false)] [.leaf, .leaf]) (.map [[97], [98]] [.int 1, .int 2]) _ rest
    (by decide +kernel) (by decide +kernel)

/-- the same for codecs obtained from construction (typed or untyped: `T = none` is the skip codec
built for a field the target struct lacks) -/
theorem skip_exact_built (reg : Reg) (hreg : ∀ id, reg.custom id = none) (nb fa n : Nat)
    (s : Schema) (T : Option GoType) (oe : Bool) (c : Codec) (a : ASchema) (p : Plan) (v : Value) (bs rest : Bytes)
    (hb : buildCodec reg nb s T oe = .ok c) (hc : classify fa s = some a) (he : encode p a v = some bs) :
    skip env n c (bs ++ rest) = .ok rest ∨ skip env n c (bs ++ rest) = .fuel :=
  skip_exact env c a ((buildOkAt reg hreg nb).build s T oe c hb fa a hc) n p v bs rest he

/-- **Skipping consumes exactly the bytes decoding would**: whenever both finish, they leave the same remainder. -/
theorem skip_eq_read (c : Codec) (a : ASchema) (hcf : CodecFor c a) (n n' m : Nat) (p : Plan) (v : Value) (bs rest : Bytes)
    (dst g : GoVal) (r r' : Bytes) (he : encode p a v = some bs) (hfit : ofAvro env m c v dst = .ok g)
    (hr : read env n c (bs ++ rest) dst = .ok (g, r)) (hs : skip env n' c (bs ++ rest) = .ok r') : r = r' := by
  have h1 := read_spec env hcf he n m rest dst
  rw [hfit] at h1
  rcases h1 with h | h
  · rw [hr] at h; cases h
    rcases skip_exact env c a hcf n' p v bs rest he with h2 | h2
    · rw [hs] at h2; cases h2; rfl
    · rw [hs] at h2; cases h2
  · rw [hr] at h; cases h

theorem listSet_length {α} (l : List α) (i : Nat) (a : α) : (listSet l i a).length = l.length :=
  Avro.listSet_length l i a

/-- **Fields the schema does not deliver into are left as they were** (zero, for a fresh struct):
a Go field that is no schema field's target keeps its value. -/
theorem untargeted_field_untouched (f : Codec → Value → GoVal → Fit GoVal) :
    ∀ (cs : List Codec) (ts : List (Option Nat)) (vs : List Value) (fs fs' : List GoVal) (j : Nat),
    (∀ t ∈ ts, t ≠ some j) → fieldsFit f cs ts vs fs = .ok fs' → fs'[j]? = fs[j]? := by
  intro cs ts vs fs fs' j
  fun_induction fieldsFit f cs ts vs fs <;> intro hj h
  case case1 => cases h; rfl
  case case2 ih => exact ih (fun t ht => hj t (List.mem_cons_of_mem _ ht)) h
  case case3 hcur => cases h
  case case4 c cs i ts v vs fs cur hcur ih =>
    obtain ⟨g, _, h⟩ := Fit.bind_eq_ok.mp h
    rw [ih g (fun t ht => hj t (List.mem_cons_of_mem _ ht)) h]
    exact listSet_getElem?_ne fs i j g fun e => hj (some i) List.mem_cons_self (by rw [e])
  case case5 => cases h

/-- **A struct with no matching field stays as it was**: every field is skipped, the struct is returned
unchanged. -/
theorem no_matching_fields (f : Codec → Value → GoVal → Fit GoVal) :
    ∀ (cs : List Codec) (ts : List (Option Nat)) (vs : List Value) (fs : List GoVal),
    (∀ t ∈ ts, t = none) → cs.length = ts.length → cs.length = vs.length → fieldsFit f cs ts vs fs = .ok fs := by
  intro cs
  induction cs with
  | nil => intro ts vs fs _ h1 h2; cases vs <;> simp at h2; exact fieldsFit_nil f ts fs
  | cons c cs ih =>
    intro ts vs fs hn h1 h2
    cases ts with
    | nil => simp at h1
    | cons t ts =>
      cases vs with
      | nil => simp at h2
      | cons v vs =>
        have : t = none := hn t (by simp)
        subst this
        rw [fieldsFit_skip]
        exact ih ts vs fs (fun t' ht' => hn t' (by simp [ht'])) (by simpa using h1) (by simpa using h2)

/-- **The value delivered into a remaining field does not depend on the other fields**: if schema
field `i` is the only one targeting Go field `j`, the final value of `j` is what field `i`'s codec
delivers for field `i`'s datum into the original content of `j` — whatever other fields the target
struct has, lacks, or in which order. -/
theorem remaining_field_value (f : Codec → Value → GoVal → Fit GoVal) :
    ∀ (cs : List Codec) (ts : List (Option Nat)) (vs : List Value) (fs fs' : List GoVal) (i j : Nat) (c : Codec) (v cur : GoVal) (dv : Value),
    fieldsFit f cs ts vs fs = .ok fs' → cs[i]? = some c → vs[i]? = some dv → ts[i]? = some (some j) →
    (∀ i', i' ≠ i → ts[i']? ≠ some (some j)) → fs[j]? = some cur →
    ∃ g, f c dv cur = .ok g ∧ fs'[j]? = some g := by
  intro cs ts vs fs fs' i j c _ cur dv
  fun_induction fieldsFit f cs ts vs fs generalizing i <;> intro h hc hv ht huniq hcur
  case case1 => simp at hc
  case case2 ih =>
    cases i with
    | zero => simp at ht
    | succ i =>
      exact ih i h (by simpa using hc) (by simpa using hv) (by simpa using ht)
        (fun i' hi' e => huniq (i' + 1) (by omega) (by simpa using e)) hcur
  case case3 => cases h
  case case4 c0 cs i0 ts v0 vs fs cur0 hcur0 ih =>
    obtain ⟨g0, hg, hr⟩ := Fit.bind_eq_ok.mp h
    cases i with
    | zero =>
      simp at hc hv ht; subst hc hv ht
      cases hcur0.symm.trans hcur
      refine ⟨g0, hg, ?_⟩
      rw [untargeted_field_untouched f cs ts vs _ fs' i0 ?_ hr]
      · exact listSet_getElem?_eq fs i0 g0 _ hcur
      · intro t' ht' e
        obtain ⟨k, hk⟩ := List.getElem?_of_mem ht'
        exact huniq (k + 1) (by omega) (by simp [hk, e])
    | succ i =>
      have hne : i0 ≠ j := fun e => huniq 0 (by omega) (by simp [e])
      exact ih g0 i hr (by simpa using hc) (by simpa using hv) (by simpa using ht)
        (fun i' hi' e => huniq (i' + 1) (by omega) (by simpa using e))
        (by rw [listSet_getElem?_ne fs i0 j g0 hne]; exact hcur)
  case case5 => cases h

end Avro.C04
