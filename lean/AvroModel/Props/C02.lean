import AvroModel.Container
import AvroModel.Props.C13
import AvroModel.Props.C09
import AvroModel.Lemmas.DecodeOk
import AvroModel.Lemmas.SpecHeader
/-!
# C02 — Files written are valid Avro that an independent reader decodes identically

Record level: each record's bytes are the specification's encoding of the datum the value denotes
(`record_valid`, which is `C13.write_valid`: it holds for every codec built for a schema, `CodecFor`,
whether the schema is the caller's or generated from the Go type).
Null clause: which values are written as the null branch.
Container level: `C09.refines` (header followed by exactly the frames of the blocks, each with exact
count and byte length and the sync marker).
-/
namespace Avro.C02
open Avro

variable (env : Env)

/-- each record the encoder buffers is a valid Avro encoding of its value under the schema -/
theorem record_valid (c : Codec) (s : ASchema) (hcf : CodecFor c s) (n m : Nat) (g : GoVal) (bs bs' : Bytes) (v : Value)
    (hw : write env n c g = some bs) (ht : toAvro env (omits env) m c g = some v)
    (he : encode (canonPlan v) s v = some bs') : bs' = bs :=
  C13.write_valid env c s hcf n m g bs bs' v hw ht he

/-- **An independent reader recovers the same data, with no bytes left over.** The reference decoder
(written from the specification, sharing nothing with the codec model) applied to what `write`
produced — followed by anything — returns exactly the datum the value denotes and the exact
remainder. (Composition of write correctness with `decode_encode`.) -/
theorem independent_reader_recovers (c : Codec) (s : ASchema) (hcf : CodecFor c s) (n n' m : Nat) (g : GoVal)
    (bs bs' rest : Bytes) (v : Value)
    (hw : write env n c g = some bs) (ht : toAvro env (omits env) m c g = some v)
    (he : encode (canonPlan v) s v = some bs') :
    decode n' s (bs ++ rest) = .ok (v, rest) ∨ decode n' s (bs ++ rest) = .fuel := by
  have := record_valid env c s hcf n m g bs bs' v hw ht he
  subst this
  exact decode_encode n' s (canonPlan v) v bs' rest he

/-- the specification's encodings are self-delimiting: every legal encoding of a datum, under any
plan, is decoded back to that datum by the reference decoder -/
theorem reference_decoder_inverts (n : Nat) (s : ASchema) (p : Plan) (v : Value) (bs rest : Bytes)
    (he : encode p s v = some bs) :
    decode n s (bs ++ rest) = .ok (v, rest) ∨ decode n s (bs ++ rest) = .fuel :=
  decode_encode n s p v bs rest he

/-- the branch of a nullable union is null exactly when the codec's `Omit` holds -/
theorem null_branch_iff (n : Nat) (c : Codec) (nn : Nat) (g : GoVal) (bs : Bytes)
    (hw : write env (n + 1) (.unionOne c nn) g = some bs) :
    (omits env c g = true → bs = writeVarint (1 - (nn : Int))) ∧
    (omits env c g = false → ∃ b, write env n c g = some b ∧ bs = writeVarint nn ++ b) := by
  rw [write_unionOne] at hw
  constructor
  · intro ho; rw [if_pos ho] at hw; exact (Option.some.inj hw).symm
  · intro ho
    rw [if_neg (by rw [ho]; nofun)] at hw
    cases hb : write env n c g with
    | none => rw [hb] at hw; cases hw
    | some b => rw [hb] at hw; exact ⟨b, rfl, (Option.some.inj hw).symm⟩

/-- `Omit` in terms of values: nil pointer (also a pointer to a nil pointer), invalid wrapper,
zero / empty omitempty field — and never for a non-omitempty scalar, so null stays distinguishable from zero -/
theorem omits_cases :
    (∀ c, omits env (.pointer c) (.ptr none) = true) ∧
    (∀ k v, omits env (.nullw k) (.nullw false v) = true) ∧
    (∀ k v, omits env (.nullw k) (.nullw true v) = false) ∧
    (∀ w, omits env (.int w true) (.int 0) = true) ∧
    (∀ w i, i ≠ 0 → omits env (.int w true) (.int i) = false) ∧
    (∀ w i, omits env (.int w false) (.int i) = false) ∧
    (omits env (.string true) (.str []) = true) ∧
    (∀ b bs, omits env (.string true) (.str (b :: bs)) = false) ∧
    (∀ item, omits env (.array item true) (.slice []) = true) ∧
    (∀ val nl, omits env (.map val true) (.map nl [] []) = true) := by
  refine ⟨?_, ?_, ?_, ?_, ?_, ?_, ?_, ?_, ?_, ?_⟩ <;> intros <;> simp [omits] <;> try assumption

/-- **Known finding D27 (machine-checked witness).** The full statement "an invalid null.* wrapper is
written as the null branch" is false behind a pointer: the code's `Omit` says non-null for a
non-nil pointer to an invalid wrapper, while the specification's reading says null. -/
def null_clause_full : Prop := ∀ (c : Codec) (g : GoVal), specNull env c g = omits env c g

theorem null_clause_full_false : ¬ null_clause_full env := by
  intro h
  have := h (.pointer (.nullw .int)) (.ptr (some (.nullw false (.int 0))))
  simp [specNull, omits] at this

/-- where the codec is not a pointer the two notions agree -/
theorem null_clause_partial (c : Codec) (g : GoVal) (hc : ∀ c', c ≠ .pointer c') : specNull env c g = omits env c g := by
  cases c <;> first | exact absurd rfl (hc _) | rfl

/-- container level (from C09): header followed by the exact frames of the blocks -/
theorem container_frames (cfg : EncCfg) (ops : List EncOp) :
    ∃ s' w', encRun cfg {} ops = (s', w', none) ∧
      w'.accepted = cfg.header ++ (((specPart cfg.blockSize ops []).1).map (frame cfg)).flatten :=
  let ⟨s', w', h1, h2, _, _⟩ := C09.refines cfg ops; ⟨s', w', h1, h2⟩

/-! ### The container, as seen by the specification's reader

`Avro.Spec.readBlocks` (Container.lean) is the block reader written from the Avro specification; it shares
nothing with the library's reader model (`File.lean`). It accepts exactly: count, byte size, payload of that
size, 16-byte marker equal to the header's. -/

/-- what `WriteBlock` puts on the wire for one call -/
def directFrame (cfg : EncCfg) (b : Nat × Bytes) : Bytes := (blockChunks cfg b.1 b.2).flatten

theorem spec_reader_reads_direct (cfg : EncCfg) (hs : cfg.sync.length = 16) :
    ∀ (bl : List (Nat × Bytes)),
      (∀ b ∈ bl, inRange 64 (b.1 : Int) ∧ inRange 64 ((cfg.compress b.2).length : Int)) →
      Spec.readBlocks cfg.sync (bl.length + 1) ((bl.map (directFrame cfg)).flatten) =
        some (bl.map fun b => { count := (b.1 : Int), payload := cfg.compress b.2 })
  | [], _ => by simp [Spec.readBlocks]
  | b :: rest, h => by
    have hb := h b (by simp)
    have ih := spec_reader_reads_direct cfg hs rest (fun x hx => h x (by simp [hx]))
    have hne : (List.map (directFrame cfg) (b :: rest)).flatten ≠ [] := by
      simp [directFrame, blockChunks, writeVarint_ne_nil]
    have hshape : (List.map (directFrame cfg) (b :: rest)).flatten =
        writeVarint (b.1 : Int) ++ (writeVarint ((cfg.compress b.2).length : Int) ++
          (cfg.compress b.2 ++ (cfg.sync ++ (List.map (directFrame cfg) rest).flatten))) := by
      simp [directFrame, blockChunks, List.append_assoc]
    rw [List.length_cons, Spec.readBlocks]
    rw [if_neg hne, hshape, readVarint_writeVarint _ hb.1]
    simp only []
    rw [readVarint_writeVarint _ hb.2]
    simp only []
    have hnn : ¬ (((cfg.compress b.2).length : Int) < 0 ∨ ((b.1 : Nat) : Int) < 0) := by omega
    rw [if_neg hnn, Int.toNat_natCast, takeN_append]
    simp only []
    rw [← hs, takeN_append]
    simp only [ne_eq, not_true_eq_false, if_false]
    rw [ih]
    simp

/-- the frames the encoder writes for any list of blocks are read by the specification's block reader as
those blocks: the declared record count is the number of records, the declared byte size is exact (the
payload is cut out precisely), every marker matches, nothing is left over -/
theorem spec_reader_reads_frames (cfg : EncCfg) (hs : cfg.sync.length = 16) :
    ∀ (part : List (List Bytes)),
      (∀ blk ∈ part, inRange 64 (blk.length : Int) ∧ inRange 64 ((cfg.compress blk.flatten).length : Int)) →
      Spec.readBlocks cfg.sync (part.length + 1) ((part.map (frame cfg)).flatten) =
        some (part.map fun blk => { count := (blk.length : Int), payload := cfg.compress blk.flatten }) := by
  intro part h
  have := spec_reader_reads_direct cfg hs (part.map fun blk => (blk.length, blk.flatten))
    (by simpa only [List.mem_map, forall_exists_index, and_imp, forall_apply_eq_imp_iff₂] using h)
  simp only [List.length_map, List.map_map, Function.comp_def, directFrame] at this
  exact this

/-- **C02, container clause.** For every Encode/Flush history the bytes after the header are read by the
specification's block reader as the reference partition of the records: exact counts, exact sizes,
matching markers, no bytes left over. -/
theorem container_valid (cfg : EncCfg) (hs : cfg.sync.length = 16) (ops : List EncOp)
    (hsz : ∀ blk ∈ (specPart cfg.blockSize ops []).1, inRange 64 (blk.length : Int) ∧ inRange 64 ((cfg.compress blk.flatten).length : Int)) :
    ∃ s' w' body, encRun cfg {} ops = (s', w', none) ∧ w'.accepted = cfg.header ++ body ∧
      Spec.readBlocks cfg.sync ((specPart cfg.blockSize ops []).1.length + 1) body =
        some ((specPart cfg.blockSize ops []).1.map fun blk => { count := (blk.length : Int), payload := cfg.compress blk.flatten }) := by
  obtain ⟨s', w', h1, h2⟩ := container_frames cfg ops
  exact ⟨s', w', _, h1, h2, spec_reader_reads_frames cfg hs _ hsz⟩

/-- non-vacuity: a concrete history (two records, a flush, one record, block size 2), identity compression -/
def exCfg2 : EncCfg := { blockSize := 2, compress := id, sync := List.replicate 16 0xAA, header := [0x4F] }
def exOps2 : List EncOp := [.encode [1], .encode [2], .flush, .encode [3, 4, 5], .flush]

example : (Spec.readBlocks exCfg2.sync 4 ((encRun exCfg2 {} exOps2).2.1.accepted.drop 1)).map
      (fun bl => bl.map fun b => (b.count, b.payload)) =
    some [(2, [1, 2]), (1, [3, 4, 5])] := by decide +kernel

example : ∀ blk ∈ (specPart exCfg2.blockSize exOps2 []).1,
    inRange 64 (blk.length : Int) ∧ inRange 64 ((exCfg2.compress blk.flatten).length : Int) := by decide +kernel

/-! ### The header, as seen by the specification's reader

`File.mkHeader` (Lemmas/File.lean) is the writer model of the header: magic, the metadata map in blocks,
the terminating zero count, the sync marker; the library writes a single block with the entries
`avro.schema` and `avro.codec` (filewriter.go `WriteHeader`). `Avro.Spec.readHeader` is the
specification-side reader. -/

/-- **The specification's reader reads the writer's header**: a header with a single metadata block
`es` of at least one entry, keys and values of representable length, and a 16-byte sync marker is read
back as exactly those entries (in order) and that marker, and exactly what follows the header is left. -/
theorem spec_reader_reads_header (es : List (Bytes × Bytes)) (sync rest : Bytes) (hne : es ≠ [])
    (hlen : es.length ≤ File.maxLen) (hsm : ∀ kv ∈ es, File.SmallEntry kv) (hs : sync.length = 16) :
    Spec.readHeader (File.mkHeader [es] sync ++ rest) = some ({ metadata := es, sync := sync }, rest) :=
  SpecHeader.readHeader_mkHeader es sync rest hne hlen hsm hs

/-- **C02, whole file.** With the header the library writes — `mkHeader` of the one metadata block
`avro.schema = js`, `avro.codec = name` and the writer's sync marker — the specification-side reader
reads the *whole* output of any `Encode`/`Flush` history as: that metadata (so that looking up
`avro.schema` / `avro.codec` yields `js` / `name`), that sync marker, and then the blocks of the
reference partition with exact record counts and exact payload sizes, every block followed by the
header's marker, and no byte left over (`Spec.readBlocks` returns `some` only when it consumed
everything). -/
theorem file_valid (cfg : EncCfg) (js name : Bytes)
    (hhdr : cfg.header = File.mkHeader [[(File.kSchema, js), (File.kCodec, name)]] cfg.sync)
    (hs : cfg.sync.length = 16) (hjs : js.length ≤ File.maxLen) (hname : name.length ≤ File.maxLen)
    (ops : List EncOp)
    (hsz : ∀ blk ∈ (specPart cfg.blockSize ops []).1, inRange 64 (blk.length : Int) ∧ inRange 64 ((cfg.compress blk.flatten).length : Int)) :
    ∃ s' w' hdr body, encRun cfg {} ops = (s', w', none) ∧
      Spec.readHeader w'.accepted = some (hdr, body) ∧
      hdr.metadata = [(File.kSchema, js), (File.kCodec, name)] ∧ hdr.sync = cfg.sync ∧
      hdr.lookup File.kSchema = some js ∧ hdr.lookup File.kCodec = some name ∧
      Spec.readBlocks hdr.sync ((specPart cfg.blockSize ops []).1.length + 1) body =
        some ((specPart cfg.blockSize ops []).1.map fun blk => { count := (blk.length : Int), payload := cfg.compress blk.flatten }) := by
  obtain ⟨s', w', body, hrun, hacc, hblocks⟩ := container_valid cfg hs ops hsz
  refine ⟨s', w', { metadata := [(File.kSchema, js), (File.kCodec, name)], sync := cfg.sync }, body, hrun, ?_, rfl, rfl, ?_, ?_, hblocks⟩
  · rw [hacc, hhdr]
    obtain ⟨hne, hlen, hsm⟩ := File.good_writerMeta js name hjs hname _ (List.mem_singleton.mpr rfl)
    exact spec_reader_reads_header _ _ _ hne hlen hsm hs
  · have h1 : (File.kCodec == File.kSchema) = false := by decide
    simp [Spec.Header.lookup, h1]
  · simp [Spec.Header.lookup]

/-- non-vacuity: the history of `exOps2` behind a real header (schema `"`, codec null) -/
def exCfg3 : EncCfg :=
  { blockSize := 2, compress := id, sync := List.replicate 16 0xAA,
    header := File.mkHeader [[(File.kSchema, [0x22]), (File.kCodec, File.vNull)]] (List.replicate 16 0xAA) }

/-- the hypotheses of `file_valid` hold for it … -/
example : ∃ s' w' hdr body, encRun exCfg3 {} exOps2 = (s', w', none) ∧
      Spec.readHeader w'.accepted = some (hdr, body) ∧
      hdr.metadata = [(File.kSchema, [0x22]), (File.kCodec, File.vNull)] ∧ hdr.sync = exCfg3.sync ∧
      hdr.lookup File.kSchema = some [0x22] ∧ hdr.lookup File.kCodec = some File.vNull ∧
      Spec.readBlocks hdr.sync ((specPart exCfg3.blockSize exOps2 []).1.length + 1) body =
        some ((specPart exCfg3.blockSize exOps2 []).1.map fun blk => { count := (blk.length : Int), payload := exCfg3.compress blk.flatten }) :=
  file_valid exCfg3 [0x22] File.vNull rfl (by decide) (by decide) (by decide) exOps2 (by decide +kernel)

/-- … and its conclusion, evaluated: the specification's reader on the whole output of the encoder model -/
example : (Spec.readHeader (encRun exCfg3 {} exOps2).2.1.accepted).map (fun hb => (hb.1.metadata, hb.1.sync, hb.2.length)) =
      some ([(File.kSchema, [0x22]), (File.kCodec, File.vNull)], List.replicate 16 0xAA, 41) ∧
    ((Spec.readHeader (encRun exCfg3 {} exOps2).2.1.accepted).bind fun hb => Spec.readBlocks hb.1.sync 4 hb.2).map
      (fun bl => bl.map fun b => (b.count, b.payload)) = some [(2, [1, 2]), (1, [3, 4, 5])] := by decide +kernel

end Avro.C02
