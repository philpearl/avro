import AvroModel.Lemmas.Time
/-!
# C18 — Timestamp parsing agrees with the standard library on RFC 3339

Model: `AvroModel/Time.lean` (`parseTime` = time/parse.go:13 index by index, every index and slice
expression a possible `panic` outcome; `renderRFC3339`/`renderDate` = the RFC 3339 grammar as a
generator; `formatNano` = `Time.Format(time.RFC3339Nano)`).

"Same instant and offset as the standard library" is split: the theorems below relate the model of
the library's parser to the renderer (for every field tuple, every fraction of any length, both
separators, every zone); the harness checks on every run that `time.Parse(time.RFC3339, ·)` of the
rendered string yields exactly the expected fields, that the real `parseTime` (reached through
`StringCodec.Read` and `null.Time`) returns the same instant and offset as `time.Parse`, and that
`formatNano` equals `Format(time.RFC3339Nano)`.  Both parsers hand the fields to `time.Date`
(trusted; compared with `unixOf` on every case).
-/
namespace Avro.C18

open Avro Avro.Time

set_option linter.constructorNameAsVariable false

theorem parseDate_safe (inp : Bytes) : Safe (fun _ => True) (parseDate inp) := by
  unfold parseDate
  refine safe_bind (safe_check _ _) fun _ h => ?_
  have hlen : 10 ≤ inp.length := by simp at h; omega
  refine safe_bind (safe_idx (by omega)) fun _ _ => ?_
  refine safe_bind (safe_check _ _) fun _ _ => ?_
  refine safe_bind (safe_idx (by omega)) fun _ _ => ?_
  refine safe_bind (safe_check _ _) fun _ _ => ?_
  refine safe_bind (safe_field safe_atoi4 (by omega) (by omega) _) fun _ _ => ?_
  refine safe_bind (safe_field safe_atoi2 (by omega) (by omega) _) fun _ _ => ?_
  refine safe_bind (safe_field safe_atoi2 (by omega) (by omega) _) fun _ _ => ?_
  exact safe_ok trivial

/-- after the clock part `remaining` is not empty, so `remaining[0]` is in range -/
theorem parseClock_safe (inp : Bytes) : Safe (fun r => 1 ≤ r.2.2.2.length) (parseClock inp) := by
  unfold parseClock
  refine safe_bind (safe_check _ _) fun _ h => ?_
  have hlen : 20 ≤ inp.length := by simp at h; omega
  refine safe_bind (safe_idx (by omega)) fun _ _ => ?_
  refine safe_bind (safe_check _ _) fun _ _ => ?_
  refine safe_bind (safe_idx (by omega)) fun _ _ => ?_
  refine safe_bind (safe_check _ _) fun _ _ => ?_
  refine safe_bind (safe_idx (by omega)) fun _ _ => ?_
  refine safe_bind (safe_check _ _) fun _ _ => ?_
  refine safe_bind (safe_field safe_atoi2 (by omega) (by omega) _) fun _ _ => ?_
  refine safe_bind (safe_field safe_atoi2 (by omega) (by omega) _) fun _ _ => ?_
  refine safe_bind (safe_field safe_atoi2 (by omega) (by omega) _) fun _ _ => ?_
  refine safe_bind (safe_sliceFrom (by omega) (by omega)) fun rem hr => ?_
  refine safe_ok ?_
  simp at hr ⊢; omega

/-- the fraction part: `remaining[1:]`, the loop and `remaining[i+1:]` stay in range (the loop
leaves `-1 ≤ i < len`), and what is left for the zone is again not empty -/
theorem parseFrac_safe (rem : Bytes) (h : 1 ≤ rem.length) :
    Safe (fun r => 1 ≤ r.2.length) (parseFrac rem) := by
  unfold parseFrac
  refine safe_bind (safe_idx (by omega)) fun c _ => ?_
  split
  · refine safe_bind (safe_sliceFrom (by omega) (by omega)) fun rem1 _ => ?_
    refine safe_bind (safe_check _ _) fun _ hne => ?_
    have hne' : rem1 ≠ [] := by intro h0; simp [h0] at hne
    have hb := (fracLoop_bounds rem1 0 0 0 1000000000).resolve_left fun h => hne' h.1
    simp only []
    refine safe_bind (safe_sliceFrom (by omega) (by omega)) fun rem2 _ => ?_
    refine safe_bind (safe_check _ _) fun _ hne2 => ?_
    refine safe_ok ?_
    have : rem2.length ≠ 0 := by simpa using hne2
    simp; omega
  · exact safe_ok h

theorem parseZone_safe (rem : Bytes) (h : 1 ≤ rem.length) :
    Safe (fun _ => True) (parseZone rem) := by
  unfold parseZone
  refine safe_bind (safe_idx (by omega)) fun c _ => ?_
  refine safe_bind (safe_sliceFrom (by omega) (by omega)) fun rem1 _ => ?_
  split
  · exact safe_ok trivial
  · refine safe_bind (Q := fun _ => True) ?_ fun sign _ => ?_
    · split
      · trivial
      · split <;> trivial
    refine safe_bind (safe_check _ _) fun _ hl => ?_
    have hlen : 5 ≤ rem1.length := by simp at hl; omega
    refine safe_bind (safe_idx (by omega)) fun _ _ => ?_
    refine safe_bind (safe_check _ _) fun _ _ => ?_
    refine safe_bind (safe_field safe_atoi2 (by omega) (by omega) _) fun _ _ => ?_
    refine safe_bind (safe_field safe_atoi2 (by omega) (by omega) _) fun _ _ => ?_
    refine safe_bind (safe_sliceFrom (by omega) (by omega)) fun _ _ => ?_
    exact safe_ok trivial

theorem parseTime_safe (inp : Bytes) : Safe (fun _ => True) (parseTime inp) := by
  unfold parseTime
  refine safe_bind (parseDate_safe inp) fun ymd _ => ?_
  split
  · exact safe_ok trivial
  · refine safe_bind (parseClock_safe inp) fun clk hc => ?_
    refine safe_bind (parseFrac_safe _ hc) fun fr hf => ?_
    refine safe_bind (parseZone_safe _ hf) fun zn _ => ?_
    refine safe_bind (safe_check _ _) fun _ _ => ?_
    exact safe_ok trivial

/-- **No-panic clause**: on every byte string whatsoever `parseTime` returns a time or an
error; none of its index, slice or `atoi` expressions can go out of range. -/
theorem total : ∀ (bs : Bytes) (k : TPanic), parseTime bs ≠ .panic k :=
  fun bs => (parseTime_safe bs).noPanic

/-- The same through `StringCodec.Read` / `nullTimeCodec.Read`: whatever the framed bytes. -/
theorem stringCodecRead_total : ∀ (bs : Bytes) (k : TPanic), stringCodecRead bs ≠ .panic k := by
  intro bs
  refine Safe.noPanic (P := fun _ => True) ?_
  unfold stringCodecRead
  split
  · exact safe_err _
  · split
    · exact safe_ok trivial
    · split
      · exact safe_err _
      · exact safe_bind (parseTime_safe _) fun _ _ => safe_ok trivial

/-- field widths of the generator: what fits in the digits of the grammar -/
structure Fits (f : TimeFields) : Prop where
  year : f.year ≤ 9999
  month : f.month ≤ 99
  day : f.day ≤ 99
  hour : f.hour ≤ 99
  min : f.min ≤ 99
  sec : f.sec ≤ 99

def ZoneFits : Zone → Prop
  | .z => True
  | .off _ hh mm => hh ≤ 99 ∧ mm ≤ 99

theorem fits_of_valid {f : TimeFields} (h : ValidFields f) : Fits f := by
  obtain ⟨⟨hy, hm, hd⟩, hh, hmi, hs⟩ := h
  refine ⟨hy, by omega, ?_, by omega, by omega, by omega⟩
  have := daysInMonth_le f.year f.month
  omega

theorem zoneFits_of_valid {z : Zone} (h : z.Valid) : ZoneFits z := by
  cases z with
  | z => trivial
  | off n hh mm =>
    have h' : hh ≤ 23 ∧ mm ≤ 59 := h
    exact ⟨by omega, by omega⟩

theorem parseDate_render {y m d : Nat} (hy : y ≤ 9999) (hm : m ≤ 99) (hd : d ≤ 99) (tl : Bytes) :
    parseDate (renderDate y m d ++ tl) = .ok (y, m, d) := by
  simp +arith [parseDate, renderDate, d4, d2, check, idx, slice_bind, num, hy, hm, hd]

/-- stated on the right-nested form that `simp only [List.append_assoc]` gives `renderRFC3339` -/
theorem parseClock_render {y m d h mi s : Nat} (hh : h ≤ 99) (hmi : mi ≤ 99) (hs : s ≤ 99)
    {tl : Bytes} (htl : tl ≠ []) :
    parseClock (renderDate y m d ++ ([84] ++ (d2 h ++ ([58] ++ (d2 mi ++ ([58] ++ (d2 s ++ tl)))))))
      = .ok (h, mi, s, tl) := by
  simp +arith [parseClock, renderDate, d4, d2, check, idx, slice_bind, sliceFrom, num, hh, hmi, hs, htl]

theorem zone_head (z : Zone) : ∃ c rest, renderZone z = c :: rest ∧ c.toNat ≠ 46 ∧ c.toNat ≠ 44 ∧
    ¬ (48 ≤ c.toNat ∧ c.toNat ≤ 57) := by
  cases z with
  | z => exact ⟨90, [], rfl, by decide, by decide, by decide⟩
  | off neg hh mm =>
    cases neg
    · exact ⟨43, _, rfl, by decide, by decide, by decide⟩
    · exact ⟨45, _, rfl, by decide, by decide, by decide⟩

theorem parseFrac_render (frac : List (Fin 10)) (sep : UInt8) (hsep : sep = 46 ∨ sep = 44) (z : Zone) :
    parseFrac (renderFrac frac sep ++ renderZone z) = .ok (fracNanos frac, renderZone z) := by
  obtain ⟨c, rest, hz, h46, h44, hnd⟩ := zone_head z
  cases frac with
  | nil => simp [renderFrac, hz, parseFrac, idx, h46, h44, fracNanos, digitsVal]
  | cons d ds =>
    have hs : (sep.toNat == 46 || sep.toNat == 44) = true := by rcases hsep with rfl | rfl <;> decide
    obtain ⟨v, m, hloop, hval⟩ := fracLoop_digits rest c hnd (d :: ds) 0 0 0 9
    simp only [Nat.reducePow] at hloop
    simp only [renderFrac, List.cons_append, parseFrac, idx, List.getElem?_cons_zero, ok_bind, hs, if_true, hz]
    -- `remaining[1:]` is the digits and the zone; the loop stops at the zone's first byte, so
    -- `remaining[i+1:]` is the zone
    rw [sliceFrom_cons, ok_bind, hloop, sliceFrom_append _ _ (by simp)]
    simp [check, hval, fracNanos]

theorem parseZone_render (z : Zone) (hz : ZoneFits z) :
    parseZone (renderZone z) = .ok (z.seconds, []) := by
  cases z with
  | z => simp [parseZone, renderZone, idx, sliceFrom, Zone.seconds]
  | off neg hh mm =>
    obtain ⟨h1, h2⟩ := hz
    -- everything but the sign byte is read the same way for `+` and `-`
    simp +arith [parseZone, renderZone, d2, idx, sliceFrom, slice_bind, check, num, h1, h2, Zone.seconds,
      Nat.mul_assoc]
    cases neg <;> simp

theorem renderZone_ne_nil (z : Zone) : renderZone z ≠ [] := by
  cases z <;> simp [renderZone]

/-- General form of the agreement theorem: every field tuple that fits the digit widths of the
grammar (not only calendar-valid ones), any fraction, both separators, any two-digit zone. -/
theorem parse_render (f : TimeFields) (hf : Fits f) (frac : List (Fin 10)) (sep : UInt8)
    (hsep : sep = 46 ∨ sep = 44) (z : Zone) (hz : ZoneFits z) :
    parseTime (renderRFC3339 f frac sep z)
      = .ok { f with nsec := fracNanos frac, offset := z.seconds } := by
  obtain ⟨hy, hm, hd, hh, hmi, hs⟩ := hf
  have hne : renderFrac frac sep ++ renderZone z ≠ [] := by simp [renderZone_ne_nil]
  have hlen : (renderRFC3339 f frac sep z).length ≠ 10 := by
    have : 1 ≤ (renderZone z).length := List.length_pos_iff.2 (renderZone_ne_nil z)
    simp [renderRFC3339, renderDate, d4, d2]
  unfold parseTime
  simp only [beq_iff_eq, hlen, if_false]
  simp only [renderRFC3339, List.append_assoc]
  rw [parseDate_render hy hm hd, ok_bind, parseClock_render hh hmi hs hne, ok_bind,
    parseFrac_render frac sep hsep z, ok_bind, parseZone_render z hz]
  simp [check]

/-- **Agreement clause, date-time**: for all valid fields, every fraction digit list of any
length, both separators, `Z` or any `±hh:mm` offset, parsing the rendered string yields the
fields, nanoseconds = the first nine fraction digits right-padded with zeros, offset = the
zone's seconds.  (`time.Parse` yields the same: checked by the harness on every generated string.) -/
theorem rfc3339 (f : TimeFields) (hf : ValidFields f) (frac : List (Fin 10)) (sep : UInt8)
    (hsep : sep = 46 ∨ sep = 44) (z : Zone) (hz : z.Valid) :
    parseTime (renderRFC3339 f frac sep z)
      = .ok { f with nsec := fracNanos frac, offset := z.seconds } :=
  parse_render f (fits_of_valid hf) frac sep hsep z (zoneFits_of_valid hz)

/-- the instant is the one the calendar assigns: what `time.Date` computes from the result -/
theorem rfc3339_instant (f : TimeFields) (hf : ValidFields f) (frac : List (Fin 10)) (sep : UInt8)
    (hsep : sep = 46 ∨ sep = 44) (z : Zone) (hz : z.Valid) :
    ∃ g, parseTime (renderRFC3339 f frac sep z) = .ok g ∧
      unixOf g = unixOf { f with offset := 0 } - z.seconds ∧ g.nsec = fracNanos frac ∧
      g.offset = z.seconds := by
  refine ⟨_, rfc3339 f hf frac sep hsep z hz, ?_, rfl, rfl⟩
  simp [unixOf, goDateUnix]

/-- non-vacuity: 2024-02-29T23:59:59,123456789012345-23:59 (leap day, comma, 15 digits) -/
example : parseTime (renderRFC3339 ⟨2024, 2, 29, 23, 59, 59, 0, 0⟩
    [1, 2, 3, 4, 5, 6, 7, 8, 9, 0, 1, 2, 3, 4, 5] 44 (.off true 23 59))
    = .ok ⟨2024, 2, 29, 23, 59, 59, 123456789, -86340⟩ := by
  rw [rfc3339 _ ⟨⟨by decide, by decide, by decide⟩, by decide, by decide, by decide⟩ _ _ (Or.inr rfl) _
    (by simp [Zone.Valid])]
  rfl

/-- **Agreement clause, date only**: every `YYYY-MM-DD` date parses to midnight UTC of that day. -/
theorem date_only (y m d : Nat) (hd : ValidDate y m d) :
    parseTime (renderDate y m d) = .ok ⟨y, m, d, 0, 0, 0, 0, 0⟩ := by
  obtain ⟨hy, hm, hdd⟩ := hd
  have := daysInMonth_le y m
  unfold parseTime
  have h := parseDate_render hy (show m ≤ 99 by omega) (show d ≤ 99 by omega) []
  simp only [List.append_nil] at h
  rw [h]
  simp [renderDate, d4, d2]

example : parseTime (renderDate 0 2 29) = .ok ⟨0, 2, 29, 0, 0, 0, 0, 0⟩ :=
  date_only 0 2 29 ⟨by decide, by decide, by decide⟩

theorem trimZeros_pad : ∀ ds : List (Fin 10), ∃ k, trimZeros ds ++ List.replicate k 0 = ds
  | [] => ⟨0, rfl⟩
  | d :: ds => by
    obtain ⟨k, ih⟩ := trimZeros_pad ds
    rw [trimZeros]
    cases h0 : trimZeros ds with
    | nil =>
      rw [h0, List.nil_append] at ih
      by_cases hd : d = 0
      · exact ⟨k + 1, by simp [hd, List.replicate_succ, ih]⟩
      · exact ⟨k, by simp [hd, ih]⟩
    | cons a t => exact ⟨k, by rw [h0] at ih; simp [ih]⟩

theorem digitsVal_digits9 (n : Nat) (h : n < 1000000000) : digitsVal 0 (digits9 n) = n := by
  rw [digits9_eq, digitsVal_digitsOf, Nat.zero_mul, Nat.zero_add, Nat.mod_eq_of_lt h]

theorem fracNanos_trim (n : Nat) (h : n < 1000000000) : fracNanos (trimZeros (digits9 n)) = n := by
  obtain ⟨k, hk⟩ := trimZeros_pad (digits9 n)
  have hlen : (trimZeros (digits9 n) ++ List.replicate k 0).length = 9 := congrArg List.length hk
  rw [List.length_append, List.length_replicate] at hlen
  unfold fracNanos
  rw [List.take_of_length_le (by omega), show 9 - (trimZeros (digits9 n)).length = k by omega, hk]
  exact digitsVal_digits9 n h

/-- whole-minute offset of less than 100 hours (two-digit hours in the `Z07:00` layout) -/
def WholeMinute (off : Int) : Prop := off % 60 = 0 ∧ -360000 < off ∧ off < 360000

theorem zoneOfOffset_fits (off : Int) (h : WholeMinute off) :
    ZoneFits (zoneOfOffset off) ∧ (zoneOfOffset off).seconds = off := by
  obtain ⟨hm, hlo, hhi⟩ := h
  unfold zoneOfOffset
  split
  · subst_vars; exact ⟨trivial, rfl⟩
  · constructor
    · exact ⟨by omega, by omega⟩
    · simp only [Zone.seconds]
      by_cases hn : off < 0
      · simp only [hn, decide_true, if_true]; omega
      · simp only [hn, decide_false]; simp; omega

/-- **Format-then-parse clause**: formatting any time (year 0000–9999, whole-minute offset) with
nanosecond precision and parsing the text back yields the same fields, the same nanoseconds and
the same offset. -/
theorem format_parse (f : TimeFields) (hf : ValidFields f) (hn : f.nsec < 1000000000)
    (hz : WholeMinute f.offset) : parseTime (formatNano f) = .ok f := by
  obtain ⟨hfit, hsec⟩ := zoneOfOffset_fits f.offset hz
  unfold formatNano
  rw [parse_render f (fits_of_valid hf) _ 46 (Or.inl rfl) _ hfit, fracNanos_trim f.nsec hn, hsec]

/-- non-vacuity: 1969-12-31T23:59:59.00000012-13:30 (before 1970, negative offset) -/
example : parseTime (formatNano ⟨1969, 12, 31, 23, 59, 59, 120, -48600⟩)
    = .ok ⟨1969, 12, 31, 23, 59, 59, 120, -48600⟩ :=
  format_parse _ ⟨⟨by decide, by decide, by decide⟩, by decide, by decide, by decide⟩ (by decide)
    ⟨by decide, by decide, by decide⟩

end Avro.C18
