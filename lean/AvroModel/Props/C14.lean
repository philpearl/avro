import AvroModel.Lemmas.Schema
/-! # C14 — Schema JSON parsing and serialisation are faithful inverses

Model: `AvroModel/Schema.lean` (`parseSchema` mirrors `Schema.UnmarshalJSONFrom` + the JSON library's
default struct decoding, `marshalSchema` mirrors `Schema.MarshalJSONTo`; documents are `Json` trees
with ordered members). JSON *text* (whitespace, escapes, syntax errors) is handled by the tokenizer of
`go-json-experiment/json`, which is in the trusted base and exercised by the correspondence run. -/
namespace Avro.C14
open Avro

/-- What `wf` asks of the object of a schema of type `t` apart from the hoisted `type` (`wf_obj_iff`), and
the invariant of the decoding loop on a document whose attributes fit `t` (`step_inv`). -/
def Inv (t : String) (o : SchemaObject) : Prop :=
  (o.type = "" ∨ o.type = t) ∧ (t = "record" ∨ o.fields = []) ∧ (t = "array" ∨ o.items = Schema.zero) ∧
  (t = "map" ∨ o.values = Schema.zero) ∧ (t = "fixed" ∨ o.size = 0) ∧ (t = "enum" ∨ o.symbols = []) ∧
  (minInt64 ≤ o.size ∧ o.size ≤ maxInt64) ∧
  SchemaField.wfList o.fields = true ∧ o.items.wf = true ∧ o.values.wf = true

theorem wf_obj_iff (t : String) (o : SchemaObject) (u : List Schema) :
    (Schema.mk t (some o) u).wf = true ↔ u = [] ∧ o.type = "" ∧ Inv t o := by
  simp only [Schema.wf, SchemaObject.attrsFit, Inv, Bool.and_eq_true, Bool.or_eq_true, beq_iff_eq, List.isEmpty_iff,
    Schema.marshalsEmpty_iff, decide_eq_true_eq, and_assoc]
  obtain ⟨ot, l, n, ns, f, i, v, sz, y⟩ := o
  simp only [SchemaObject.wfKids, SchemaObject.type, SchemaObject.fields, SchemaObject.items, SchemaObject.values,
    Bool.and_eq_true, and_assoc]
  constructor
  · rintro ⟨hu, hot, h⟩; exact ⟨hu, hot, .inl hot, h⟩
  · rintro ⟨hu, hot, -, h⟩; exact ⟨hu, hot, h⟩

mutual
/-- `mp_*`: marshal, then parse -/
private theorem mp_schema : (s : Schema) → s.wf = true → parseSchema (marshalSchema s) = .ok s
  | .mk t none [], _ => by simp [marshalSchema, parseSchema]
  | .mk t none (u :: us), h => by
    simp only [Schema.wf, Bool.and_eq_true, beq_iff_eq] at h
    have ih := mp_list (u :: us) h.2
    simp only [marshalSchema, parseSchema, ih, h.1]
    rfl
  | .mk t (some (.mk ot l n ns f i v sz y)) u, h => by
    obtain ⟨rfl, hot, -, hf, hi, hv, hsz, hy, hrange, hkf, hki, hkv⟩ := (wf_obj_iff _ _ _).1 h
    cases hot
    have := pOM_marshal t l n ns f i v sz y hf hi hv hsz hy hrange (mp_fields f hkf) (mp_schema i hki)
      (mp_schema v hkv)
    simp only [marshalSchema, parseSchema, SchemaObject.logicalType, SchemaObject.name, SchemaObject.nspace, this]
    rfl
private theorem mp_list : (ss : List Schema) → Schema.wfList ss = true → parseSchemas (marshalSchemas ss) = .ok ss
  | [], _ => by simp [marshalSchemas, parseSchemas]
  | s :: ss, h => by
    simp only [Schema.wfList, Bool.and_eq_true] at h
    simp only [marshalSchemas, parseSchemas, mp_schema s h.1, mp_list ss h.2]
    rfl
private theorem mp_fields : (fs : List SchemaField) → SchemaField.wfList fs = true →
    parseFieldList (marshalFields fs) = .ok fs
  | [], _ => by simp [marshalFields, parseFieldList]
  | .mk n t :: fs, h => by
    simp only [SchemaField.wfList, Bool.and_eq_true] at h
    simp only [marshalFields, parseFieldList, parseField_marshal n t (mp_schema t h.1), mp_fields fs h.2]
    rfl
end

/-- C14 "serialising a schema yields valid JSON that parses back to an identical schema": for every
well-formed schema value (DESIGN.md §9), at any nesting depth. -/
theorem marshal_parse (s : Schema) (h : WF s) : parseSchema (marshalSchema s) = .ok s := mp_schema s h

/-! ## Independence of key order, layout and unknown attributes

Whitespace and escapes do not exist at the level of `Json` trees (they are the tokenizer's
business). What remains of "layout" is the order of object members and the presence of unknown
attributes, at any depth. Results are compared with the error class forgotten (`PResult.opt`):
when a document is rejected, which of several defects is reported first may depend on the order. -/

/-- `ex` are extra members that may be added to an object whose other member names are `ks`: their
names are not known attribute names, are new and pairwise distinct, and their values are JSON
values without duplicate member names (anything else the tokenizer accepts). -/
def Extras (ks : List String) (ex : List (String × Json)) : Prop :=
  (∀ e ∈ ex, e.1 ∉ knownKeys ∧ e.1 ∉ ks ∧ e.2.dupFree = true) ∧ (ex.map (·.1)).Nodup

mutual
/-- `Lay x j j'`: `j'` is the document `j` laid out differently — at every depth the members of each
object are permuted and, when `x = true`, unknown attributes are added. -/
def Lay (x : Bool) : Json → Json → Prop
  | .arr xs, j' => ∃ ys, j' = .arr ys ∧ LayL x xs ys
  | .obj ms, j' => ∃ ms1 ex ms', j' = .obj ms' ∧ LayM x ms ms1 ∧ List.Perm (ms1 ++ ex) ms' ∧
      Extras (ms1.map (·.1)) ex ∧ (x = false → ex = [])
  | .null, j' => j' = .null
  | .bool b, j' => j' = .bool b
  | .num n, j' => j' = .num n
  | .numRaw s, j' => j' = .numRaw s
  | .str s, j' => j' = .str s
def LayL (x : Bool) : List Json → List Json → Prop
  | [], ys => ys = []
  | a :: as, ys => ∃ b bs, ys = b :: bs ∧ Lay x a b ∧ LayL x as bs
def LayM (x : Bool) : List (String × Json) → List (String × Json) → Prop
  | [], ms' => ms' = []
  | (k, v) :: ms, ms' => ∃ v' r, ms' = (k, v') :: r ∧ Lay x v v' ∧ LayM x ms r
end

theorem LayM.cons {x k v v' ms r} (h1 : Lay x v v') (h2 : LayM x ms r) : LayM x ((k, v) :: ms) ((k, v') :: r) := by
  simp only [LayM]; exact ⟨v', r, rfl, h1, h2⟩
theorem LayM.nil {x} : LayM x [] [] := by simp [LayM]
theorem LayL.cons {x a b as bs} (h1 : Lay x a b) (h2 : LayL x as bs) : LayL x (a :: as) (b :: bs) := by
  simp only [LayL]; exact ⟨b, bs, rfl, h1, h2⟩
theorem Lay.arr {x xs ys} (h : LayL x xs ys) : Lay x (.arr xs) (.arr ys) := by
  simp only [Lay]; exact ⟨ys, rfl, h⟩
theorem Lay.obj {x ms ms1 ex ms'} (h1 : LayM x ms ms1) (h2 : List.Perm (ms1 ++ ex) ms')
    (h3 : Extras (ms1.map (·.1)) ex) (h4 : x = false → ex = []) : Lay x (.obj ms) (.obj ms') := by
  simp only [Lay]; exact ⟨ms1, ex, ms', rfl, h1, h2, h3, h4⟩
theorem Extras.nil {ks} : Extras ks [] := ⟨by simp, by simp⟩

theorem LayM_keys {x} : (ms ms1 : List (String × Json)) → LayM x ms ms1 → ms1.map (·.1) = ms.map (·.1)
  | [], _, rfl => rfl
  | (k, v) :: ms, _, ⟨v', r, rfl, _, hr⟩ => by simp only [List.map_cons, LayM_keys ms r hr]

mutual
theorem lay_dupFree {x} : (j : Json) → ∀ j', Lay x j j' → j'.dupFree = j.dupFree
  | .null, _, rfl | .bool _, _, rfl | .num _, _, rfl | .numRaw _, _, rfl | .str _, _, rfl => rfl
  | .arr xs, _, ⟨ys, rfl, hl⟩ => by simp only [Json.dupFree, lay_dupFreeL xs ys hl]
  | .obj ms, _, ⟨ms1, ex, ms', rfl, hm, hp, ⟨hex, hnd⟩, _⟩ => by
    -- `dupFree_obj`: the names are distinct and every value is `dupFree`. Both survive the permutation; for the
    -- values `ih` and the extras' own `dupFree`, for the names that the extras are new and distinct.
    have hk := LayM_keys ms ms1 hm
    have ih := lay_dupFreeM ms ms1 hm
    rw [dupFreeMembers_eq_all, dupFreeMembers_eq_all] at ih
    rw [dupFree_obj, dupFree_obj, ← hp.all_eq, List.all_append, ih]
    have hexall : ex.all (fun m => m.2.dupFree) = true := by
      rw [List.all_eq_true]; intro e he; exact (hex e he).2.2
    rw [hexall, Bool.and_true]
    congr 1
    rw [Bool.eq_iff_iff]
    simp only [decide_eq_true_eq]
    rw [← (hp.map (·.1)).nodup_iff, List.map_append, List.nodup_append, hk]
    constructor
    · exact fun h => h.1
    · intro h
      refine ⟨h, hnd, ?_⟩
      intro a ha b hb hab
      obtain ⟨e, he, rfl⟩ := List.mem_map.1 hb
      exact (hex e he).2.1 (hk ▸ hab ▸ ha)
theorem lay_dupFreeL {x} : (xs : List Json) → ∀ ys, LayL x xs ys → Json.dupFreeList ys = Json.dupFreeList xs
  | [], _, rfl => rfl
  | a :: as, _, ⟨b, bs, rfl, hab, hr⟩ => by
    simp only [Json.dupFreeList, lay_dupFree a b hab, lay_dupFreeL as bs hr]
theorem lay_dupFreeM {x} : (ms : List (String × Json)) → ∀ ms1, LayM x ms ms1 →
    Json.dupFreeMembers ms1 = Json.dupFreeMembers ms
  | [], _, rfl => rfl
  | (k, v) :: ms, _, ⟨v', r, rfl, hv, hr⟩ => by
    simp only [Json.dupFreeMembers, lay_dupFree v v' hv, lay_dupFreeM ms r hr]
end

/-- a function blind to the contents of arrays and objects is `Lay`-invariant -/
theorem lay_shallow {β} (F : Json → β) (harr : ∀ xs ys, F (.arr xs) = F (.arr ys))
    (hobj : ∀ ms ms', F (.obj ms) = F (.obj ms')) {x v v'} (h : Lay x v v') : F v' = F v := by
  cases v <;> simp only [Lay] at h
  case arr xs => obtain ⟨ys, rfl, _⟩ := h; exact harr _ _
  case obj ms => obtain ⟨_, _, _, rfl, _⟩ := h; exact hobj _ _
  all_goals subst h; rfl

theorem lay_decString {x} (a : String) {v v' : Json} (h : Lay x v v') : decString a v' = decString a v :=
  lay_shallow _ (fun _ _ => rfl) (fun _ _ => rfl) h

theorem lay_mapM_decString {x} (a : String) : (xs ys : List Json) → LayL x xs ys →
    ys.mapM (decString a) = xs.mapM (decString a)
  | [], _, rfl => rfl
  | b :: bs, _, ⟨c, cs, rfl, hbc, hr⟩ => by
    simp only [List.mapM_cons, lay_decString a hbc, lay_mapM_decString a bs cs hr]

theorem lay_decStrings {x} (a : String) {v v' : Json} (h : Lay x v v') : decStrings a v' = decStrings a v := by
  cases v <;> simp only [Lay] at h
  case arr xs => obtain ⟨ys, rfl, hl⟩ := h; simp only [decStrings, lay_mapM_decString a xs ys hl]
  case obj ms => obtain ⟨_, _, _, rfl, _⟩ := h; rfl
  all_goals subst h; rfl

theorem lay_decObj {x k v v'} (h : Lay x v v')
    (hS : PResult.opt (parseSchema v') = PResult.opt (parseSchema v))
    (hF : PResult.opt (parseFields v') = PResult.opt (parseFields v)) :
    PResult.opt (decObj k v') = PResult.opt (decObj k v) := by
  by_cases hk : k ∈ knownKeys
  · rcases mem_knownKeys.1 hk with rfl | rfl | rfl | rfl | rfl | rfl | rfl | rfl | rfl <;>
      simp only [decObj, decodeAttr_known, PResult.opt_bind, lay_decString _ h, lay_decStrings _ h,
        lay_shallow (decInt _) (fun _ _ => rfl) (fun _ _ => rfl) h, hS, hF]
  · simp only [decObj, decodeAttr_unknown hk, lay_dupFree v v' h]

theorem lay_decFld {x k v v'} (h : Lay x v v')
    (hS : PResult.opt (parseSchema v') = PResult.opt (parseSchema v)) :
    PResult.opt (decFld k v') = PResult.opt (decFld k v) := by
  by_cases hk : k = "name" ∨ k = "type"
  · rcases hk with rfl | rfl <;> simp only [decFld, decodeFAttr_known, PResult.opt_bind, lay_decString _ h, hS]
  · simp only [decFld, decodeFAttr_unknown (not_or.1 hk), lay_dupFree v v' h]

theorem decObj_unknown (k : String) (v : Json) (hk : k ∉ knownKeys) (hd : v.dupFree = true) :
    decObj k v = .ok none := by
  rw [decObj, decodeAttr_unknown hk, if_pos hd]

theorem decFld_unknown (k : String) (v : Json) (hk : k ∉ knownKeys) (hd : v.dupFree = true) :
    decFld k v = .ok none := by
  rw [mem_knownKeys] at hk
  rw [decFld, decodeFAttr_unknown ⟨fun h => hk (by simp [h]), fun h => hk (by simp [h])⟩, if_pos hd]

/-- layout at one object level is a permutation (`fold_perm`) plus unknown members in front (`fold_skip`) -/
theorem fold_layout {α σ} (dec : String → Json → PResult (Option α)) (app : Option α → σ → σ)
    (hc : Commutes dec app) (hnone : ∀ st, app none st = st)
    (hunk : ∀ k v, k ∉ knownKeys → v.dupFree = true → dec k v = .ok none)
    {ms1 ex ms' : List (String × Json)} (st : σ)
    (hp : List.Perm (ms1 ++ ex) ms') (hex : Extras (ms1.map (·.1)) ex) :
    PResult.opt (foldMembers dec app [] st ms') = PResult.opt (foldMembers dec app [] st ms1) := by
  rw [← fold_perm dec app hc (List.perm_append_comm.trans hp) [] st]
  exact congrArg _ (fold_skip dec app hnone ex ms1 (fun e he => hunk e.1 e.2 (hex.1 e he).1 (hex.1 e he).2.2)
    hex.2 (fun e he => (hex.1 e he).2.1) [] (fun _ _ => by simp) st)

mutual
theorem lay_schema {x} : (j : Json) → ∀ j', Lay x j j' →
    PResult.opt (parseSchema j') = PResult.opt (parseSchema j)
  | .null, _, rfl | .bool _, _, rfl | .num _, _, rfl | .numRaw _, _, rfl | .str _, _, rfl => rfl
  | .arr xs, _, ⟨ys, rfl, hl⟩ => by simp only [parseSchema, PResult.opt_bind, lay_schemas xs ys hl]
  | .obj ms, _, ⟨ms1, ex, ms', rfl, hm, hp, hex, _⟩ => by
    have e1 := lay_members ms ms1 hm [] SchemaObject.zero
    simp only [pOM_eq_fold] at e1
    simp only [parseSchema, pOM_eq_fold, PResult.opt_bind,
      fold_layout decObj applyAttr commutes_obj (fun _ => rfl) decObj_unknown _ hp hex, e1]
termination_by structural j => j
theorem lay_schemas {x} : (xs : List Json) → ∀ ys, LayL x xs ys →
    PResult.opt (parseSchemas ys) = PResult.opt (parseSchemas xs)
  | [], _, rfl => rfl
  | a :: as, _, ⟨b, bs, rfl, hab, hr⟩ => by
    simp only [parseSchemas, PResult.opt_bind, lay_schema a b hab, lay_schemas as bs hr]
termination_by structural xs => xs
theorem lay_fields {x} : (j : Json) → ∀ j', Lay x j j' →
    PResult.opt (parseFields j') = PResult.opt (parseFields j)
  | .null, _, rfl | .bool _, _, rfl | .num _, _, rfl | .numRaw _, _, rfl | .str _, _, rfl => rfl
  | .arr xs, _, ⟨ys, rfl, hl⟩ => by simp only [parseFields]; exact lay_fieldList xs ys hl
  | .obj _, _, ⟨_, _, _, rfl, _⟩ => rfl
termination_by structural j => j
theorem lay_fieldList {x} : (xs : List Json) → ∀ ys, LayL x xs ys →
    PResult.opt (parseFieldList ys) = PResult.opt (parseFieldList xs)
  | [], _, rfl => rfl
  | a :: as, _, ⟨b, bs, rfl, hab, hr⟩ => by
    simp only [parseFieldList, PResult.opt_bind, lay_field a b hab, lay_fieldList as bs hr]
termination_by structural xs => xs
theorem lay_field {x} : (j : Json) → ∀ j', Lay x j j' →
    PResult.opt (parseField j') = PResult.opt (parseField j)
  | .null, _, rfl | .bool _, _, rfl | .num _, _, rfl | .numRaw _, _, rfl | .str _, _, rfl => rfl
  | .arr _, _, ⟨_, rfl, _⟩ => rfl
  | .obj ms, _, ⟨ms1, ex, ms', rfl, hm, hp, hex, _⟩ => by
    have e1 := lay_fmembers ms ms1 hm [] SchemaField.zero
    simp only [pFM_eq_fold] at e1
    simp only [parseField, pFM_eq_fold]
    exact (fold_layout decFld applyFAttr commutes_fld (fun _ => rfl) decFld_unknown _ hp hex).trans e1
termination_by structural j => j
theorem lay_members {x} : (ms : List (String × Json)) → ∀ ms1, LayM x ms ms1 → ∀ seen o,
    PResult.opt (parseObjMembers seen o ms1) = PResult.opt (parseObjMembers seen o ms)
  | [], _, rfl, _, _ => rfl
  | (k, v) :: ms, _, ⟨v', r, rfl, hv, hr⟩, seen, o => by
    simp only [parseObjMembers]
    split
    · rfl
    · exact PResult.opt_bind_congr (lay_decObj hv (lay_schema v v' hv) (lay_fields v v' hv))
        (fun a => lay_members ms r hr _ _)
termination_by structural ms => ms
theorem lay_fmembers {x} : (ms : List (String × Json)) → ∀ ms1, LayM x ms ms1 → ∀ seen f,
    PResult.opt (parseFieldMembers seen f ms1) = PResult.opt (parseFieldMembers seen f ms)
  | [], _, rfl, _, _ => rfl
  | (k, v) :: ms, _, ⟨v', r, rfl, hv, hr⟩, seen, f => by
    simp only [parseFieldMembers]
    split
    · rfl
    · exact PResult.opt_bind_congr (lay_decFld hv (lay_schema v v' hv))
        (fun a => lay_fmembers ms r hr _ _)
termination_by structural ms => ms
end

mutual
theorem Lay_refl {x} : (j : Json) → Lay x j j
  | .null | .bool _ | .num _ | .numRaw _ | .str _ => by simp [Lay]
  | .arr xs => Lay.arr (LayL_refl xs)
  | .obj ms => Lay.obj (ex := []) (LayM_refl ms) (by simp) Extras.nil (fun _ => rfl)
theorem LayL_refl {x} : (xs : List Json) → LayL x xs xs
  | [] => by simp [LayL]
  | a :: as => LayL.cons (Lay_refl a) (LayL_refl as)
theorem LayM_refl {x} : (ms : List (String × Json)) → LayM x ms ms
  | [] => LayM.nil
  | (_, v) :: ms => LayM.cons (Lay_refl v) (LayM_refl ms)
end

/-- Master statement: a document and any re-layout of it (members permuted and unknown attributes
added, at every depth) are either both rejected or parse to the same schema. -/
theorem layout_invariant {x : Bool} {j j' : Json} (h : Lay x j j') :
    PResult.opt (parseSchema j') = PResult.opt (parseSchema j) := lay_schema j j' h

/-- same document up to the order of object members at any depth -/
def JPerm (j j' : Json) : Prop := Lay false j j'

theorem JPerm_of_perm {ms ms' : List (String × Json)} (h : List.Perm ms ms') : JPerm (.obj ms) (.obj ms') :=
  Lay.obj (ex := []) (LayM_refl ms) (by simpa using h) Extras.nil (fun _ => rfl)

/-- C14 "independent of JSON key order": permuting object members at any depth does not change the
result of parsing. -/
theorem key_order {j j' : Json} (h : JPerm j j') :
    PResult.opt (parseSchema j') = PResult.opt (parseSchema j) := layout_invariant h

/-- C14 "independent of unknown attributes": inserting, at any position of an object, a member whose
name is not an attribute name (`doc`, `default`, `aliases`, `order`, `precision`, …; names are
case-sensitive, so `Type` counts as unknown) and whose value is any JSON value does not change the
result. (`k ∉ keys`, `x.dupFree`: the tokenizer rejects repeated member names anywhere, see
`malformed_duplicate`.) Insertion at deeper levels: `layout_invariant` with `Lay true`. -/
theorem unknown_attr (pre post : List (String × Json)) (k : String) (x : Json)
    (hk : k ∉ knownKeys) (hnew : k ∉ (pre ++ post).map (·.1)) (hx : x.dupFree = true) :
    PResult.opt (parseSchema (.obj (pre ++ (k, x) :: post))) = PResult.opt (parseSchema (.obj (pre ++ post))) := by
  refine layout_invariant (x := true) (Lay.obj (ex := [(k, x)]) (LayM_refl (pre ++ post)) ?_ ⟨?_, by simp⟩ (by simp))
  · exact (List.perm_append_singleton (k, x) (pre ++ post)).trans List.perm_middle.symm
  · intro e he
    simp only [List.mem_singleton] at he
    subst he
    exact ⟨hk, hnew, hx⟩

/-- C14 "parsing preserves structure": take any well-formed schema value `s` (type, name, namespace,
logical type, fields in order, items, values, size, symbols, union branches in order), write it as
a document in ANY layout — members of every object in any order, unknown attributes added anywhere —
and parsing returns exactly `s`. -/
theorem structure_preserved (s : Schema) (h : WF s) {j : Json} (hl : Lay true (marshalSchema s) j) :
    PResult.opt (parseSchema j) = some s := by
  rw [layout_invariant hl, marshal_parse s h]; rfl

/-- C14 "malformed JSON yields an error", non-schema top level (also at every position where a
schema is expected: items, values, field type, union branch — see `malformed_nested`,
`malformed_branch`): `null`, `true`/`false` and numbers are not schemas. -/
theorem malformed_toplevel :
    parseSchema .null = .error .unexpectedToken ∧ (∀ b, parseSchema (.bool b) = .error .unexpectedToken) ∧
    (∀ n, parseSchema (.num n) = .error .unexpectedToken) ∧
    (∀ s, parseSchema (.numRaw s) = .error .unexpectedToken) := by
  simp [parseSchema]

/-- the JSON kind of `v` does not fit the Go type of the known attribute `k` -/
def badKind (k : String) (v : Json) : Bool :=
  if k = "type" ∨ k = "logicalType" ∨ k = "name" ∨ k = "namespace" then
    (match v with | .str _ | .null => false | _ => true)
  else if k = "fields" ∨ k = "symbols" then (match v with | .arr _ | .null => false | _ => true)
  else if k = "items" ∨ k = "values" then (match v with | .str _ | .arr _ | .obj _ => false | _ => true)
  else if k = "size" then
    (match v with | .num n => !(decide (minInt64 ≤ n ∧ n ≤ maxInt64)) | .null => false | _ => true)
  else false

theorem badKind_fails (k : String) (v : Json) (h : badKind k v = true) : PResult.opt (decObj k v) = none := by
  unfold badKind at h
  by_cases hk : k ∈ knownKeys
  · rcases mem_knownKeys.1 hk with rfl | rfl | rfl | rfl | rfl | rfl | rfl | rfl | rfl <;>
      simp only [decObj, decodeAttr_known, PResult.opt_bind] <;> cases v <;>
      simp_all [decString, decInt, decStrings, parseSchema, parseFields]
    rw [if_neg (by omega)]; simp
  · simp only [mem_knownKeys, not_or] at hk
    simp [hk] at h

theorem obj_ok {ms : List (String × Json)} {s : Schema} (h : parseSchema (.obj ms) = .ok s) :
    (ms.map (·.1)).Nodup ∧ ∀ m ∈ ms, PResult.opt (decObj m.1 m.2) ≠ none := by
  simp only [parseSchema, pOM_eq_fold, PResult.bind_eq_ok] at h
  obtain ⟨o, h, _⟩ := h
  have := fold_ok decObj applyAttr ms [] _ o h
  exact ⟨this.1, this.2.2⟩

theorem obj_member_error {ms : List (String × Json)} {k : String} {v : Json} (hm : (k, v) ∈ ms)
    (hd : PResult.opt (decObj k v) = none) : PResult.opt (parseSchema (.obj ms)) = none :=
  PResult.opt_eq_none.2 fun _ h => (obj_ok h).2 _ hm hd

/-- C14 "malformed JSON yields an error", wrong kind for a known attribute: an object with a member
(at any position, whatever the other members are) whose value has the wrong JSON kind — e.g.
`"size":"4"`, `"size":4.0`, `"size":9223372036854775808`, `"fields":{}`, `"name":1`,
`"type":{"type":"array",…}` (the attribute `type` of an object must be a string), `"items":null` —
is rejected. -/
theorem malformed_attr (ms : List (String × Json)) (k : String) (v : Json) (hm : (k, v) ∈ ms)
    (hb : badKind k v = true) : PResult.opt (parseSchema (.obj ms)) = none :=
  obj_member_error hm (badKind_fails k v hb)

/-- an invalid schema in `items` / `values` position makes the enclosing schema invalid -/
theorem malformed_nested (ms : List (String × Json)) (k : String) (v : Json) (hm : (k, v) ∈ ms)
    (hk : k = "items" ∨ k = "values") (hv : PResult.opt (parseSchema v) = none) :
    PResult.opt (parseSchema (.obj ms)) = none := by
  apply obj_member_error hm
  rcases hk with rfl | rfl <;> simp only [decObj, decodeAttr_known, PResult.opt_bind, hv, Option.bind_none]

/-- an invalid union branch makes the union invalid -/
theorem malformed_branch (xs : List Json) (x : Json) (hx : x ∈ xs) (hv : PResult.opt (parseSchema x) = none) :
    PResult.opt (parseSchema (.arr xs)) = none := by
  simp only [parseSchema, PResult.opt_bind, seq_fails (g := parseSchemas) (fun _ _ => by simp only [parseSchemas]) hx hv, Option.bind_none]

/-- C14 "malformed JSON yields an error", duplicate member: an object in schema position with two
members of the same name (known or unknown) is rejected, whatever their values. -/
theorem malformed_duplicate (ms : List (String × Json)) (h : ¬ (ms.map (·.1)).Nodup) :
    PResult.opt (parseSchema (.obj ms)) = none :=
  PResult.opt_eq_none.2 fun _ hs => h (obj_ok hs).1

/-- … and a duplicate member name anywhere inside the value of an unknown attribute as well -/
theorem malformed_duplicate_in_unknown (ms : List (String × Json)) (k : String) (v : Json) (hm : (k, v) ∈ ms)
    (hk : k ∉ knownKeys) (hv : v.dupFree = false) : PResult.opt (parseSchema (.obj ms)) = none := by
  apply obj_member_error hm
  simp [decObj, decodeAttr_unknown hk, hv]

/-- an invalid record field (not an object or `null`, a repeated member name, a `type` that is not a
schema) makes the record invalid -/
theorem malformed_field (ms : List (String × Json)) (fs : List Json) (f : Json)
    (hm : ("fields", Json.arr fs) ∈ ms) (hf : f ∈ fs) (hv : PResult.opt (parseField f) = none) :
    PResult.opt (parseSchema (.obj ms)) = none := by
  apply obj_member_error hm
  simp only [decObj, decodeAttr_known, parseFields, PResult.opt_bind,
    seq_fails (g := parseFieldList) (fun _ _ => by simp only [parseFieldList]) hf hv, Option.bind_none]

/-- a record field object with a repeated member name is invalid -/
theorem malformed_field_duplicate (ms : List (String × Json)) (h : ¬ (ms.map (·.1)).Nodup) :
    PResult.opt (parseField (.obj ms)) = none :=
  PResult.opt_eq_none.2 fun f hf => h (fold_ok decFld applyFAttr ms [] _ f (by rw [← pFM_eq_fold]; exact hf)).1

theorem zero_wf : Schema.zero.wf = true := by decide
theorem range0 : minInt64 ≤ 0 ∧ 0 ≤ maxInt64 := by decide
theorem decInt_range {a : String} {v : Json} {n : Int} (h : decInt a v = .ok n) : minInt64 ≤ n ∧ n ≤ maxInt64 := by
  cases v <;> simp [decInt] at h
  · subst h; exact range0
  · split at h <;> simp at h
    subst h; assumption

theorem step_inv {t k : String} {v : Json} {a : Option Attr} {o : SchemaObject}
    (hd : decObj k v = .ok a)
    (hfit : attrFit t k v (fun _ => v.isSchemaDoc) (fun _ => v.isFieldsDoc) = true)
    (ihS : ∀ x, parseSchema v = .ok x → v.isSchemaDoc = true → x.wf = true)
    (ihF : ∀ fs, parseFields v = .ok fs → v.isFieldsDoc = true → SchemaField.wfList fs = true)
    (hinv : Inv t o) : Inv t (applyAttr a o) := by
  obtain ⟨ot, ol, on, ons, fs, i, vv, sz, y⟩ := o
  by_cases hk : k ∈ knownKeys
  · simp only [Inv, SchemaObject.type, SchemaObject.fields, SchemaObject.items, SchemaObject.values,
      SchemaObject.size, SchemaObject.symbols] at hinv ⊢
    have ⟨h1, h2, h3, h4, h5, h6, h7, h8, h9, h10⟩ := hinv
    rcases mem_knownKeys.1 hk with rfl | rfl | rfl | rfl | rfl | rfl | rfl | rfl | rfl <;>
      simp only [decObj, decodeAttr_known, PResult.bind_eq_ok, Except.ok.injEq] at hd <;>
      obtain ⟨x, hx, rfl⟩ := hd <;>
      simp [attrFit] at hfit <;>
      simp only [applyAttr]
    · refine ⟨?_, h2, h3, h4, h5, h6, h7, h8, h9, h10⟩
      cases v <;> simp_all [decString]
    · exact hinv
    · exact hinv
    · exact hinv
    · exact ⟨h1, .inl hfit.1, h3, h4, h5, h6, h7, ihF x hx hfit.2, h9, h10⟩
    · exact ⟨h1, h2, .inl hfit.1, h4, h5, h6, h7, h8, ihS x hx hfit.2, h10⟩
    · exact ⟨h1, h2, h3, .inl hfit.1, h5, h6, h7, h8, h9, ihS x hx hfit.2⟩
    · exact ⟨h1, h2, h3, h4, .inl hfit.1, h6, decInt_range hx, h8, h9, h10⟩
    · exact ⟨h1, h2, h3, h4, h5, .inl hfit.1, h7, h8, h9, h10⟩
  · rw [decObj, decodeAttr_unknown hk] at hd
    split at hd <;> simp at hd
    subst hd; exact hinv

theorem fstep_inv {k : String} {v : Json} {a : Option FAttr} {f : SchemaField}
    (hd : decFld k v = .ok a) (hfit : fieldAttrFit k v (fun _ => v.isSchemaDoc) = true)
    (ihS : ∀ x, parseSchema v = .ok x → v.isSchemaDoc = true → x.wf = true)
    (hinv : f.type.wf = true) : (applyFAttr a f).type.wf = true := by
  obtain ⟨n, ft⟩ := f
  by_cases hk : k = "name" ∨ k = "type"
  · rcases hk with rfl | rfl <;>
      simp only [decFld, decodeFAttr_known, PResult.bind_eq_ok, Except.ok.injEq] at hd <;>
      obtain ⟨x, hx, rfl⟩ := hd
    · exact hinv
    · exact ihS x hx (by simpa [fieldAttrFit] using hfit)
  · rw [decFld, decodeFAttr_unknown (not_or.1 hk)] at hd
    split at hd <;> simp at hd
    subst hd; exact hinv

theorem applyAttr_type_other {k : String} {v : Json} {a : Option Attr} (hd : decObj k v = .ok a)
    (hk : k ≠ "type") (o : SchemaObject) : (applyAttr a o).type = o.type := by
  cases a with
  | none => rfl
  | some a =>
    have := decodeAttr_key hd
    cases o; cases a <;> first | rfl | exact absurd this.symm hk

theorem applyAttr_type_set {t : String} {v : Json} {a : Option Attr} (hd : decObj "type" v = .ok a)
    (hfit : attrFit t "type" v (fun _ => v.isSchemaDoc) (fun _ => v.isFieldsDoc) = true) (o : SchemaObject) :
    (applyAttr a o).type = t := by
  cases o
  cases v <;> simp_all [attrFit, decObj, decodeAttr_known, decString, bind, Except.bind]
  subst hd; simp [applyAttr, SchemaObject.type]

theorem type_final {t : String} {ms : List (String × Json)} {seen : List String} {o o' : SchemaObject}
    (h : parseObjMembers seen o ms = .ok o') (hfit : Json.membersFit t ms = true) :
    o'.type = if "type" ∈ ms.map (·.1) then t else o.type := by
  induction ms generalizing seen o with
  | nil => cases h; rfl
  | cons m ms ih =>
    obtain ⟨k, v⟩ := m
    simp only [Json.membersFit, Bool.and_eq_true] at hfit
    simp only [parseObjMembers] at h
    split at h
    · cases h
    · obtain ⟨a, hd, h⟩ := PResult.bind_eq_ok.1 h
      rw [ih h hfit.2]
      by_cases hk : k = "type"
      · subst hk
        simp [applyAttr_type_set hd hfit.1]
      · rw [applyAttr_type_other hd hk]
        simp only [List.map_cons, List.mem_cons, Ne.symm hk, false_or]

theorem typeOfMembers_absent (ms : List (String × Json)) (h : "type" ∉ ms.map (·.1)) : typeOfMembers ms = "" := by
  have : ms.lookup "type" = none := List.lookup_eq_none_iff.2 fun p hp => by
    simpa using fun hk => h (List.mem_map.2 ⟨p, hp, hk.symm⟩)
  simp [typeOfMembers, this]

theorem hoist_wf {t : String} {o : SchemaObject} (hinv : Inv t o) (ht : o.type = t) : (hoist o).wf = true := by
  obtain ⟨ot, l, n, ns, f, i, v, sz, y⟩ := o
  cases ht
  exact (wf_obj_iff _ _ _).2 ⟨rfl, rfl, .inl rfl, hinv.2⟩
theorem inv_zero (t : String) : Inv t SchemaObject.zero := by
  simp [Inv, SchemaObject.zero, SchemaObject.type, SchemaObject.fields, SchemaObject.items, SchemaObject.values,
    SchemaObject.size, SchemaObject.symbols, zero_wf, range0, SchemaField.wfList]

mutual
/-- `pw_*`: what parsing a document of the grammar returns is well-formed -/
theorem pw_schema : (j : Json) → ∀ s, parseSchema j = .ok s → j.isSchemaDoc = true → s.wf = true
  | .null, s, h, _ | .bool _, s, h, _ | .num _, s, h, _ | .numRaw _, s, h, _ => by simp [parseSchema] at h
  | .str t, s, h, hg => by
    simp only [parseSchema, Except.ok.injEq] at h
    subst h
    simpa [Schema.wf, Json.isSchemaDoc] using hg
  | .arr [], s, h, hg => by simp [Json.isSchemaDoc] at hg
  | .arr (x :: xs), s, h, hg => by
    simp only [parseSchema, PResult.bind_eq_ok, Except.ok.injEq] at h
    obtain ⟨ss, hp, rfl⟩ := h
    have := pw_schemas (x :: xs) ss hp (by simpa [Json.isSchemaDoc, Json.isSchemaDocs] using hg)
    cases ss with
    | nil => simp [parseSchemas, PResult.bind_eq_ok] at hp
    | cons u us => simp [Schema.wf, this]
  | .obj ms, s, h, hg => by
    simp only [parseSchema, PResult.bind_eq_ok, Except.ok.injEq] at h
    obtain ⟨o, hp, rfl⟩ := h
    simp only [Json.isSchemaDoc] at hg
    apply hoist_wf (pw_members (typeOfMembers ms) ms [] _ o hp hg (inv_zero _))
    rw [type_final hp hg]
    split
    · rfl
    · rename_i hn; simp [SchemaObject.zero, SchemaObject.type, typeOfMembers_absent ms hn]
theorem pw_schemas : (xs : List Json) → ∀ ss, parseSchemas xs = .ok ss → Json.isSchemaDocs xs = true →
    Schema.wfList ss = true
  | [], ss, h, _ => by simp [parseSchemas] at h; subst h; rfl
  | x :: xs, ss, h, hg => by
    simp only [parseSchemas, PResult.bind_eq_ok, Except.ok.injEq] at h
    simp only [Json.isSchemaDocs, Bool.and_eq_true] at hg
    obtain ⟨s, h1, ss', h2, rfl⟩ := h
    simp only [Schema.wfList, pw_schema x s h1 hg.1, pw_schemas xs ss' h2 hg.2, Bool.and_self]
theorem pw_members (t : String) : (ms : List (String × Json)) → ∀ seen o o', parseObjMembers seen o ms = .ok o' →
    Json.membersFit t ms = true → Inv t o → Inv t o'
  | [], seen, o, o', h, _, hinv => by simp [parseObjMembers] at h; subst h; exact hinv
  | (k, v) :: ms, seen, o, o', h, hg, hinv => by
    simp only [Json.membersFit, Bool.and_eq_true] at hg
    simp only [parseObjMembers] at h
    split at h
    · simp at h
    · obtain ⟨a, hd, h⟩ := PResult.bind_eq_ok.1 h
      exact pw_members t ms _ _ o' h hg.2
        (step_inv hd hg.1 (pw_schema v) (pw_fields v) hinv)
theorem pw_fields : (j : Json) → ∀ fs, parseFields j = .ok fs → j.isFieldsDoc = true → SchemaField.wfList fs = true
  | .null, fs, _, hg | .bool _, fs, _, hg | .num _, fs, _, hg | .numRaw _, fs, _, hg | .str _, fs, _, hg
  | .obj _, fs, _, hg => by simp [Json.isFieldsDoc] at hg
  | .arr xs, fs, h, hg => by
    simp only [parseFields] at h
    simp only [Json.isFieldsDoc] at hg
    exact pw_fieldList xs fs h hg
theorem pw_fieldList : (xs : List Json) → ∀ fs, parseFieldList xs = .ok fs → Json.isFieldDocs xs = true →
    SchemaField.wfList fs = true
  | [], fs, h, _ => by simp [parseFieldList] at h; subst h; rfl
  | x :: xs, fs, h, hg => by
    simp only [parseFieldList, PResult.bind_eq_ok, Except.ok.injEq] at h
    simp only [Json.isFieldDocs, Bool.and_eq_true] at hg
    obtain ⟨⟨n, ft⟩, h1, fs', h2, rfl⟩ := h
    simp only [SchemaField.wfList, show ft.wf = true from pw_field x _ h1 hg.1, pw_fieldList xs fs' h2 hg.2,
      Bool.and_self]
theorem pw_field : (j : Json) → ∀ f, parseField j = .ok f → j.isFieldDoc = true → f.type.wf = true
  | .null, f, _, hg | .bool _, f, _, hg | .num _, f, _, hg | .numRaw _, f, _, hg | .str _, f, _, hg
  | .arr _, f, _, hg => by simp [Json.isFieldDoc] at hg
  | .obj ms, f, h, hg => by
    simp only [parseField] at h
    simp only [Json.isFieldDoc] at hg
    exact pw_fmembers ms [] _ f h hg (by simp [SchemaField.zero, SchemaField.type, zero_wf])
theorem pw_fmembers : (ms : List (String × Json)) → ∀ seen f f', parseFieldMembers seen f ms = .ok f' →
    Json.fieldMembersFit ms = true → f.type.wf = true → f'.type.wf = true
  | [], seen, f, f', h, _, hinv => by simp [parseFieldMembers] at h; subst h; exact hinv
  | (k, v) :: ms, seen, f, f', h, hg, hinv => by
    simp only [Json.fieldMembersFit, Bool.and_eq_true] at hg
    simp only [parseFieldMembers] at h
    split at h
    · simp at h
    · obtain ⟨a, hd, h⟩ := PResult.bind_eq_ok.1 h
      exact pw_fmembers ms _ _ f' h hg.2 (fstep_inv hd hg.1 (pw_schema v) hinv)
end

/-- C14 "all schema values produced by parsing": what `SchemaFromString` returns for a document in
the grammar is well-formed … -/
theorem parse_wf (j : Json) (s : Schema) (h : parseSchema j = .ok s) (hg : j.isSchemaDoc = true) : WF s :=
  pw_schema j s h hg

/-- … hence serialising it and parsing again gives the same value: parse ∘ marshal ∘ parse = parse. -/
theorem parse_marshal_parse (j : Json) (s : Schema) (h : parseSchema j = .ok s) (hg : j.isSchemaDoc = true) :
    parseSchema (marshalSchema s) = parseSchema j := by
  rw [h]; exact marshal_parse s (parse_wf j s h hg)

/-! ## Non-vacuity: concrete nested schemas and documents -/

/-- record { f : array of map of union [null, long(timestamp-micros), enum E {A,B}, fixed F 16] ; g : string }
— union inside map inside array inside record -/
def exSchema : Schema :=
  .mk "record" (some (.mk "" "" "r" "a.b"
    [ .mk "f" (.mk "array" (some (.mk "" "" "" "" []
        (.mk "map" (some (.mk "" "" "" "" [] Schema.zero
          (.mk "union" none
            [ Schema.prim "null",
              .mk "long" (some (.mk "" "timestamp-micros" "" "" [] Schema.zero Schema.zero 0 [])) [],
              .mk "enum" (some (.mk "" "" "E" "" [] Schema.zero Schema.zero 0 ["A", "B"])) [],
              .mk "fixed" (some (.mk "" "" "F" "" [] Schema.zero Schema.zero 16 [])) [] ])
          0 [])) [])
        Schema.zero 0 [])) []),
      .mk "g" (Schema.prim "string") ]
    Schema.zero Schema.zero 0 [])) []

theorem exSchema_wf : WF exSchema := by decide +kernel
example : WF exSchema := exSchema_wf

/-- the hypotheses of `marshal_parse` are satisfiable on a nested schema, and the conclusion is
the expected one (evaluated, not assumed) -/
example : parseSchema (marshalSchema exSchema) = .ok exSchema := marshal_parse exSchema exSchema_wf

/-- the same schema written by hand: members shuffled at every level, unknown attributes (`doc`,
`default` with a nested object and array, `aliases`, `order`, `precision`, case variants `Type` /
`NAME`) sprinkled in -/
def exDoc : Json :=
  .obj [ ("doc", .str "a record"),
    ("fields", .arr [
      .obj [ ("default", .obj [("x", .arr [.num 1, .null, .obj [("type", .str "inner")]])]),
             ("type", .obj [ ("items", .obj [ ("values", .arr [
                 .str "null",
                 .obj [("logicalType", .str "timestamp-micros"), ("precision", .numRaw "1e3"), ("type", .str "long")],
                 .obj [("symbols", .arr [.str "A", .str "B"]), ("name", .str "E"), ("type", .str "enum"), ("aliases", .arr [.str "EE"])],
                 .obj [("size", .num 16), ("Type", .str "ignored"), ("type", .str "fixed"), ("name", .str "F")] ]),
               ("type", .str "map") ]),
               ("type", .str "array"), ("NAME", .bool true) ]),
             ("name", .str "f"), ("order", .str "ascending") ],
      .obj [ ("type", .str "string"), ("name", .str "g") ] ]),
    ("namespace", .str "a.b"), ("type", .str "record"), ("aliases", .arr []), ("name", .str "r") ]

theorem exDoc_parse : parseSchema exDoc = .ok exSchema := by rfl
theorem exDoc_ok : exDoc.isSchemaDoc = true ∧ exDoc.dupFree = true := by decide +kernel
example : parseSchema exDoc = .ok exSchema := exDoc_parse
example : exDoc.isSchemaDoc = true ∧ exDoc.dupFree = true := exDoc_ok
/-- `parse_wf` and `parse_marshal_parse` apply to it -/
example : parseSchema (marshalSchema exSchema) = parseSchema exDoc :=
  parse_marshal_parse exDoc exSchema exDoc_parse exDoc_ok.1

/-- `unknown_attr`, instantiated: an unknown member with a nested value in the middle of a record -/
example :
    PResult.opt (parseSchema (.obj ([("type", .str "fixed")] ++ ("default", .obj [("a", .arr [.null])]) :: [("size", .num 4)])))
      = PResult.opt (parseSchema (.obj ([("type", .str "fixed")] ++ [("size", .num 4)]))) :=
  unknown_attr _ _ "default" _ (by decide) (by decide) (by decide)

/-- `key_order`, instantiated at depth 2 (inner object permuted inside an outer permuted object) -/
example : JPerm
    (.obj [("type", .str "array"), ("items", .obj [("type", .str "map"), ("values", .str "int")])])
    (.obj [("items", .obj [("values", .str "int"), ("type", .str "map")]), ("type", .str "array")]) :=
  Lay.obj (ex := [])
    (LayM.cons (Lay_refl _) (LayM.cons (Lay.obj (ex := []) (LayM_refl _) (List.Perm.swap _ _ _) Extras.nil (fun _ => rfl)) LayM.nil))
    (List.Perm.swap _ _ _) Extras.nil (fun _ => rfl)

/-- `structure_preserved`, instantiated: a `fixed` schema written with an extra attribute, in a
different order -/
example : PResult.opt (parseSchema
    (.obj [("size", .num 16), ("doc", .str "sixteen bytes"), ("type", .str "fixed"), ("name", .str "F")])) =
    some (.mk "fixed" (some (.mk "" "" "F" "" [] Schema.zero Schema.zero 16 [])) []) := by
  apply structure_preserved _ (by decide)
  show Lay true (.obj [("type", .str "fixed"), ("name", .str "F"), ("size", .num 16)]) _
  refine Lay.obj (ex := [("doc", .str "sixteen bytes")]) (LayM_refl _) ?_ ⟨?_, by simp⟩ (fun h => by simp at h)
  · -- [type, name, size, doc] ~ [size, doc, type, name]
    exact (List.perm_append_comm (l₁ := [("type", Json.str "fixed"), ("name", .str "F")])
      (l₂ := [("size", .num 16), ("doc", .str "sixteen bytes")]))
  · intro e he
    simp only [List.mem_singleton] at he
    subst he
    decide

/-! ## Outside `WF` / outside the grammar: what the implementation does (documented, not claimed) -/

/-- The full-strength reading "EVERY schema value produced by parsing re-serialises to a document
that parses back to it" is false: attributes that do not belong to the type are kept by the parser
and dropped by the serialiser. -/
def marshal_parse_full : Prop := ∀ j s, parseSchema j = .ok s → parseSchema (marshalSchema s) = .ok s

/-- witness: `{"type":"record","size":4}` parses (Size = 4) and re-serialises as
`{"type":"record","fields":[]}` -/
theorem marshal_parse_full_false : ¬ marshal_parse_full := by
  intro h
  have := h (.obj [("type", .str "record"), ("size", .num 4)])
    (.mk "record" (some (.mk "" "" "" "" [] Schema.zero Schema.zero 4 [])) []) rfl
  have e : parseSchema (marshalSchema (.mk "record" (some (.mk "" "" "" "" [] Schema.zero Schema.zero 4 [])) [])) =
      .ok (.mk "record" (some (.mk "" "" "" "" [] Schema.zero Schema.zero 0 [])) []) := rfl
  rw [e] at this
  simp at this

/-- the empty union `[]` is accepted; its value `{Type:"union"}` serialises as the *string* "union" -/
example : parseSchema (.arr []) = .ok (.mk "union" none []) ∧ marshalSchema (.mk "union" none []) = .str "union" :=
  ⟨rfl, rfl⟩
example : ¬ WF (.mk "union" none []) := by decide

/-- accepted although hardly schemas: `{}`, `{"type":null}`, a record field `null` -/
example : parseSchema (.obj []) = .ok (.mk "" (some SchemaObject.zero) []) := by rfl
example : parseSchema (.obj [("type", .null)]) = .ok (.mk "" (some SchemaObject.zero) []) := by rfl
example : parseSchema (.obj [("type", .str "record"), ("fields", .arr [.null])]) =
    .ok (.mk "record" (some (.mk "" "" "" "" [SchemaField.zero] Schema.zero Schema.zero 0 [])) []) := by rfl

/-- `key_order` cannot be stated with the error class: which defect is reported first depends on
the order of the members -/
theorem key_order_error_class_differs :
    parseSchema (.obj [("type", .num 1), ("name", .num 2)]) = .error (.wrongKind "type") ∧
    parseSchema (.obj [("name", .num 2), ("type", .num 1)]) = .error (.wrongKind "name") := ⟨rfl, rfl⟩

/-- malformed instances (non-vacuity of the `malformed_*` theorems) -/
example : PResult.opt (parseSchema (.obj [("type", .str "fixed"), ("name", .str "x"), ("size", .str "4")])) = none :=
  malformed_attr _ "size" (.str "4") (by simp) (by decide)
example : PResult.opt (parseSchema (.obj [("type", .obj [("type", .str "array"), ("items", .str "int")])])) = none :=
  malformed_attr _ "type" (.obj [("type", .str "array"), ("items", .str "int")]) (by simp) (by decide)
example : PResult.opt (parseSchema (.obj [("type", .str "int"), ("doc", .num 1), ("doc", .num 2)])) = none :=
  malformed_duplicate _ (by decide)

end Avro.C14
