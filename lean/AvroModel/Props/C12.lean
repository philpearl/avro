import AvroModel.Lemmas.Conc
import AvroModel.Generated.LockFacts
/-!
# C12 — Concurrent independent use is race-free and result-equivalent

Model: `AvroModel/Conc.lean`, an interleaving semantics of threads, RW-mutexes and plain shared variables.
Three parts: a lock discipline excludes data races, for any programs (`discipline_no_race`; the mover theorems
are the commuting half of Lipton's reduction); the discipline holds for the library (`all_guarded`, over the
table `Generated.lockFacts` that `factgen` re-extracts from the Go sources on every run — remove or narrow a
lock and it stops checking; `library_no_race` composes the two); codecs are immutable, per-call state is not
stored in package-level variables, and a registry look-up is unaffected by registrations of other keys.

The property is partial by nature: the Go memory model below lock acquire/release, `sync.Pool` internals (its
operations are atomic steps), the scheduler, aliasing through pointers obtained from package-level variables and
the call graph (a fact row is one access under its syntactic lock set; thread programs are arbitrary sequences
of rows) are not modelled. Those are searched by the race-detector runs of the harness (`harness/conc.go`).
-/
namespace Avro.C12
open Avro.Conc

-- `lockOK_preserved`, `inv_preserved`, `disciplined_state_no_race`: lemmas of `Lemmas/Conc.lean` under this
-- namespace, where `./check` (`#audit Avro.C12`) looks for the theorems of the property.
theorem lockOK_preserved {M V : Type} [DecidableEq M] [DecidableEq V] {σ σ' : St M V} {t : Tid}
    (hs : Step σ t σ') (hl : LockOK σ) : LockOK σ' :=
  step_preserves_lockOK hs hl

/-- Well-bracketed disciplined programs stay disciplined — the invariant "locks
consistent, and every thread's remaining program passes the static check against the locks it really holds"
is preserved by every step. -/
theorem inv_preserved {M V : Type} [DecidableEq M] [DecidableEq V] {L : V → Option M} {σ σ' : St M V} {t : Tid}
    (hs : Step σ t σ') (hi : Inv L σ) : Inv L σ' :=
  step_preserves_inv hs hi

theorem disciplined_state_no_race {M V : Type} [DecidableEq M] [DecidableEq V] {L : V → Option M} {σ : St M V}
    (hd : Disciplined L σ) (hl : LockOK σ) : ¬ Race σ :=
  no_race_of_disciplined hd hl

/-- **C12, "free of data races" (model level).** For every discipline `L`, every family of thread programs
that pass the static check (writes under the variable's mutex held exclusively, reads of guarded variables
under it in any mode, unguarded variables never written, well-bracketed lock use), every initial memory and
every interleaving: no reachable state has a data race. -/
theorem discipline_no_race {M V : Type} [DecidableEq M] [DecidableEq V] (L : V → Option M)
    (progs : Tid → List (Act M V)) (mem : V → Nat)
    (hc : ∀ t, Checked L (fun _ => none) (progs t)) :
    ∀ σ, Reachable (init progs mem) σ → ¬ Race σ :=
  fun _ hr => (reachable_inv hc hr).no_race

/-- Non-vacuity of `discipline_no_race`: a writer and a reader of `x` under mutex `0` pass the check. -/
example : ∀ t, Checked (M := Nat) (V := Nat) (fun _ => some 0) (fun _ => none)
    ((fun t => if t = 0 then [.acq 0 .ex, .wr 7 1, .rel 0] else if t = 1 then [.acq 0 .sh, .rd 7, .rel 0] else []) t) := by
  intro t
  by_cases h0 : t = 0
  · subst h0; simp [Checked, run, stepHeld, upd]
  · by_cases h1 : t = 1
    · subst h1; simp [Checked, run, stepHeld, upd]
    · simp [h0, h1, Checked, run]

/-- `Race` is not vacuous: the same two accesses without the mutex race in the initial state. -/
example : Race (init (M := Nat) (V := Nat)
    (fun t => if t = 0 then [.wr 7 1] else if t = 1 then [.rd 7] else []) (fun _ => 0)) :=
  ⟨0, 1, .wr 7 1, .rd 7, by decide, rfl, rfl, rfl⟩

/-- Isolation of critical sections: in every reachable state of checked programs, while `t` holds `m`
exclusively no other thread is about to read or write a variable guarded by `m`; while `t` holds `m` shared no
other thread is about to write one. (Hence everything a thread reads or writes inside an exclusive section
on `m` is changed by nobody else during the section: sections on the same mutex do not overlap in effect.) -/
theorem sections_isolated {M V : Type} [DecidableEq M] [DecidableEq V] (L : V → Option M)
    (progs : Tid → List (Act M V)) (mem : V → Nat) (hc : ∀ t, Checked L (fun _ => none) (progs t))
    {σ : St M V} (hr : Reachable (init progs mem) σ) {t u : Tid} {m : M} {md : Mode}
    (ht : holds σ t m = some md) (hne : t ≠ u) {a : Act M V} (hn : next σ u = some a) :
    (∀ x v, a = .wr x v → L x ≠ some m) ∧ (md = .ex → ∀ x, a = .rd x → L x ≠ some m) :=
  have hi := reachable_inv hc hr
  isolated (inv_disciplined hi) hi.lockOK ht hne hn

/-- **Sequential-consistency style corollary (movers).** In every reachable state of checked programs, a
lock-free step (plain read/write, atomic or local step) of thread `t` and an adjacent step of any other thread
`u` commute, in either order, to the *same* final state (memory, read logs, lock state, programs). No
independence hypothesis is needed: the discipline excludes the conflicting combinations. -/
theorem lockfree_steps_commute {M V : Type} [DecidableEq M] [DecidableEq V] (L : V → Option M)
    (progs : Tid → List (Act M V)) (mem : V → Nat) (hc : ∀ t, Checked L (fun _ => none) (progs t))
    {σ : St M V} (hr : Reachable (init progs mem) σ) {t u : Tid} (hne : t ≠ u)
    (hfree : ∀ a, next σ t = some a → a.isLockOp = false) {σ₁ σ₂ : St M V} :
    (Step σ t σ₁ → Step σ₁ u σ₂ → ∃ σ₁', Step σ u σ₁' ∧ Step σ₁' t σ₂) ∧
    (Step σ u σ₁ → Step σ₁ t σ₂ → ∃ σ₁', Step σ t σ₁' ∧ Step σ₁' u σ₂) :=
  have hi := reachable_inv hc hr
  ⟨fun h1 h2 => lockfree_right_mover hi hne h1 h2 hfree, fun h1 h2 => lockfree_left_mover hi hne h1 h2 hfree⟩

/-- Iterated: a lock-free step of `t` (e.g. an access inside its critical section) followed by any finite
sequence of steps of other threads can be postponed after all of them, reaching the same state. -/
theorem section_step_delays {M V : Type} [DecidableEq M] [DecidableEq V] (L : V → Option M)
    (progs : Tid → List (Act M V)) (mem : V → Nat) (hc : ∀ t, Checked L (fun _ => none) (progs t))
    {σ σ₁ σ₂ : St M V} (hr : Reachable (init progs mem) σ) {t : Tid}
    (h1 : Step σ t σ₁) (hs : OtherSteps t σ₁ σ₂) (hfree : ∀ a, next σ t = some a → a.isLockOp = false) :
    ∃ σ', OtherSteps t σ σ' ∧ Step σ' t σ₂ :=
  lockfree_step_delays (reachable_inv hc hr) h1 hs hfree

/-- A lock-free step of `t` preceded by steps of other threads can be brought forward before all of them.
With `section_step_delays`: the steps of `t` between its `acq m` and its `rel m` can be gathered into one uninterrupted block
without changing the final state, i.e. every execution is equivalent to one in which that critical section
runs without interleaving. (The full reduction theorem — a single serial order for *all* sections of an
execution — is not proved here.) -/
theorem section_step_advances {M V : Type} [DecidableEq M] [DecidableEq V] (L : V → Option M)
    (progs : Tid → List (Act M V)) (mem : V → Nat) (hc : ∀ t, Checked L (fun _ => none) (progs t))
    {σ σ₁ σ₂ : St M V} (hr : Reachable (init progs mem) σ) {t : Tid}
    (hs : OtherSteps t σ σ₁) (h2 : Step σ₁ t σ₂) (hfree : ∀ a, next σ t = some a → a.isLockOp = false) :
    ∃ σ', Step σ t σ' ∧ OtherSteps t σ' σ₂ :=
  lockfree_step_advances (reachable_inv hc hr) hs h2 hfree

/-- Non-vacuity of the mover theorems: two checked threads that both read `x`; thread 0 then thread 1 can step. -/
example : (∀ t, Checked (M := Nat) (V := Nat) (fun _ => none) (fun _ => none) ((fun t => if t ≤ 1 then [.rd 7] else []) t)) ∧
    ∃ σ₁ σ₂, Step (init (M := Nat) (V := Nat) (fun t => if t ≤ 1 then [.rd 7] else []) (fun _ => 5)) 0 σ₁ ∧ Step σ₁ 1 σ₂ := by
  refine ⟨?_, _, _, Step.rd (x := 7) (rest := []) rfl, Step.rd (x := 7) (rest := []) rfl⟩
  intro t
  by_cases h : t ≤ 1 <;> simp [h, Checked, run, stepHeld]

/-- In executions of checked programs `Unlock`/`RUnlock` is always enabled: the thread does hold the mutex
(Go would abort with "unlock of unlocked mutex" otherwise). -/
theorem unlock_never_faults {M V : Type} [DecidableEq M] [DecidableEq V] (L : V → Option M)
    (progs : Tid → List (Act M V)) (mem : V → Nat) (hc : ∀ t, Checked L (fun _ => none) (progs t))
    {σ : St M V} (hr : Reachable (init progs mem) σ) {t : Tid} {m : M} {rest : List (Act M V)}
    (hp : σ.prog t = .rel m :: rest) : ∃ σ', Step σ t σ' :=
  rel_enabled (reachable_inv hc hr) hp

/-- **The tie to the source.** The discipline predicate evaluates to `true` on the table re-extracted from the
Go sources by `factgen` on this run. -/
theorem all_guarded : Guarded Generated.lockFacts = true := by decide +kernel

/-- `Guarded` lifted to a statement about every row (finite table ⇒ a proof, not a sample): every access
outside initialisation to a plain package-level variable `x` that is ever written after initialisation is made
holding `lockOf x` — exclusively if it is a write. -/
theorem guarded_rows (f : LockFacts) (hg : Guarded f = true) :
    ∀ a ∈ f.accesses, a.atInit = false → a.syncCall = false →
      (a.write = true → ∃ m, lockOf f a.var = some m ∧ ∃ h ∈ a.held, h.mutex = m ∧ h.excl = true) ∧
      (∀ m, lockOf f a.var = some m → ∃ h ∈ a.held, h.mutex = m) := by
  intro a ha hi hs
  exact (guarded_access hg ha hi).2 hs

theorem all_guarded_rows :
    ∀ a ∈ Generated.lockFacts.accesses, a.atInit = false → a.syncCall = false →
      (a.write = true → ∃ m, lockOf Generated.lockFacts a.var = some m ∧ ∃ h ∈ a.held, h.mutex = m ∧ h.excl = true) ∧
      (∀ m, lockOf Generated.lockFacts a.var = some m → ∃ h ∈ a.held, h.mutex = m) :=
  guarded_rows _ all_guarded

/-- Every thread program the facts describe (any sequence of the library's accesses, each under its recorded
lock set) passes the static check of the discipline `lockOf facts`. -/
theorem guarded_programs_checked (f : LockFacts) (hg : Guarded f = true) {p : List (Act String String)}
    (hp : FromFacts f p) : Checked (lockOf f) (fun _ => none) p := by
  simp [Checked, fromFacts_checked hg hp]

/-- **Composition: the library's accesses never race (model level).** Any number of threads, each performing any
sequence of the library's package-level accesses as extracted from the source on this run, under any
interleaving. -/
theorem library_no_race (progs : Tid → List (Act String String)) (mem : String → Nat)
    (hp : ∀ t, FromFacts Generated.lockFacts (progs t)) :
    ∀ σ, Reachable (init progs mem) σ → ¬ Race σ :=
  discipline_no_race (lockOf Generated.lockFacts) progs mem
    (fun t => guarded_programs_checked _ all_guarded (hp t))

/-- The discipline predicate is not trivially true: dropping the read lock around a registry look-up, or
writing a package-level cache without a lock, makes it false. -/
example : Guarded
    { vars := [⟨"p", "p.mu", "sync.RWMutex", "RWMutex", false⟩, ⟨"p", "p.reg", "map", "", true⟩],
      accesses := [⟨"p.Register", "p.reg", true, false, false, [⟨"p.mu", true⟩]⟩,
                   ⟨"p.build", "p.reg", false, false, false, []⟩],
      codecMethods := [], perCall := [] } = false := by decide

example : Guarded
    { vars := [⟨"p", "p.cache", "Codec", "", false⟩],
      accesses := [⟨"p.build", "p.cache", true, false, false, []⟩],
      codecMethods := [], perCall := [] } = false := by decide

example : Guarded
    { vars := [⟨"p", "p.mu", "sync.RWMutex", "RWMutex", false⟩, ⟨"p", "p.reg", "map", "", true⟩],
      accesses := [⟨"p.Register", "p.reg", true, false, false, [⟨"p.mu", true⟩]⟩,
                   ⟨"p.build", "p.reg", false, false, false, [⟨"p.mu", false⟩]⟩],
      codecMethods := [], perCall := [] } = true := by decide +kernel

/-- The regenerated table is not empty and contains guarded (written) variables. -/
example : (Generated.lockFacts.vars.filter fun v => (lockOf Generated.lockFacts v.name).isSome).length ≥ 1 := by
  -- one witness: `||`/`&&` stop at the first hit, so `lockOf` is evaluated for `avro.registry` alone
  have h : (Generated.lockFacts.vars.any fun v =>
      v.name == "avro.registry" && (lockOf Generated.lockFacts v.name).isSome) = true := by decide +kernel
  obtain ⟨v, hv, hp⟩ := List.any_eq_true.mp h
  exact List.length_pos_of_mem (List.mem_filter.mpr ⟨hv, ((Bool.and_eq_true _ _).mp hp).2⟩)

/-- Codecs hold only immutable configuration after construction: no method Read/Skip/New/Omit/Write of any
type implementing `Codec` assigns through its receiver or writes a package-level variable (so one codec
may be used by any number of goroutines). -/
theorem codecs_immutable :
    ∀ m ∈ Generated.codecMethods, m.assignsThroughReceiver = false ∧ m.writesPackageState = false := by
  have h : (Generated.codecMethods.all fun m => !m.assignsThroughReceiver && !m.writesPackageState) = true := by
    decide +kernel
  intro m hm
  have := (List.all_eq_true.mp h) m hm
  simpa using this

example : Generated.codecMethods ≠ [] := by decide +kernel

/-- Per-call state (`deflate`, `snappyCodec`, `Encoder`, `ReadBuf`, `WriteBuf`, `FileWriter`) is never stored in
a package-level variable: it is reachable only from the call (or the user-owned object) that created it. -/
theorem per_call_state_not_shared :
    ∀ p ∈ Generated.perCallTypes, p.storedInPkgVar = false := by
  have h : (Generated.perCallTypes.all fun p => !p.storedInPkgVar) = true := by decide +kernel
  intro p hp
  have := (List.all_eq_true.mp h) p hp
  simpa using this

example : Generated.perCallTypes ≠ [] := by decide +kernel

/-- A look-up of key `k` is unaffected by any sequence of registrations of keys other than `k`. -/
theorem registry_confluent {K β : Type} [DecidableEq K] (k : K) (ins : List (K × β)) (r : List (K × β))
    (h : ∀ e ∈ ins, e.1 ≠ k) :
    regLookup k (ins.foldl (fun r e => regInsert e.1 e.2 r) r) = regLookup k r := by
  induction ins generalizing r with
  | nil => rfl
  | cons e ins ih =>
    simp only [List.foldl_cons]
    rw [ih _ (fun e' he' => h e' (List.mem_cons_of_mem _ he'))]
    have : e.1 ≠ k := h e (List.mem_cons_self ..)
    simp [regLookup, regInsert, this]

theorem registry_lookup_insert {K β : Type} [DecidableEq K] (k : K) (v : β) (r : List (K × β)) :
    regLookup k (regInsert k v r) = some v := by
  simp [regLookup, regInsert]

theorem registry_inserts_commute {K β : Type} [DecidableEq K] (a b k : K) (va vb : β) (r : List (K × β))
    (h : a ≠ b) :
    regLookup k (regInsert a va (regInsert b vb r)) = regLookup k (regInsert b vb (regInsert a va r)) := by
  by_cases ha : a = k <;> by_cases hb : b = k <;> simp_all [regLookup, regInsert]

example : regLookup 2 ([(1, "x"), (3, "y")].foldl (fun r e => regInsert e.1 e.2 r) [(2, "z")]) = some "z" := by
  decide

end Avro.C12
