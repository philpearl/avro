import AvroModel.Lemmas.Time
import AvroModel.Lemmas.Bytes
/-!
# C19 — Logical date and timestamp types decode to the instant the spec defines

Model: `AvroModel/Time.lean`: `dateRead`/`dateWrite` = `DateCodec.Read`/`Write` (time/time.go:61, 81),
`longRead`/`longWrite` = `LongCodec.Read`/`Write` (time/time.go:151, 171) for the three multipliers
chosen by `buildTimeCodec` (time/time.go:25): plain long → 1 (nanoseconds), `timestamp-micros` → 1000,
`timestamp-millis` → 1000000.  Instants are integers: `Instant.sec` Unix seconds, `Instant.nsec`
nanosecond within the second; `Instant.nanos` is the instant in nanoseconds since the epoch.
Go's fixed-width arithmetic is explicit (`wrapS 64 (l * mult)`, `int32(secs / 86400)`); the
hypotheses say exactly when it does not wrap.  `time.Date`/`time.Unix` are trusted
(`goDateUnix`, `ofUnixNano`) and compared with the implementation on every harness case.
-/
namespace Avro.C19

open Avro Avro.Time

/-- `time.Date(1970, 1, 1+l, 0, 0, 0, 0, UTC)` is `l` days after the epoch, for every integer `l` -/
theorem dateDecode_eq (l : Int) : dateDecode l = ⟨l * 86400, 0⟩ := by
  have h : daysFromCivil 1970 1 (1 + l) = l := by
    have e : daysBeforeYear 1970 + ((daysBeforeMonth 1970 1 : Nat) : Int) = 719528 := by decide
    unfold daysFromCivil; omega
  simp [dateDecode, goDateUnix, h]

/-- **Date, decode**: every int32 day count `d` — negative ones included — decodes to the
instant `d * 86400` seconds, i.e. midnight UTC `d` days from 1970-01-01. -/
theorem date_decode (d : Int) (hd : inRange 32 d) (rest : Bytes) :
    dateRead (writeInt 32 d ++ rest) = .ok (⟨d * 86400, 0⟩, rest) := by
  unfold dateRead
  simp [readInt_writeInt (by decide) hd, dateDecode_eq]

/-- non-vacuity: day −1 is 1969-12-31; the int32 limits decode too -/
example : dateRead (writeInt 32 (-1)) = .ok (⟨-86400, 0⟩, []) := by
  simpa using date_decode (-1) (by decide) []
example : dateRead (writeInt 32 (-2147483648)) = .ok (⟨-185542587187200, 0⟩, []) := by
  simpa using date_decode (-2147483648) (by decide) []
example : dateRead (writeInt 32 2147483647) = .ok (⟨185542587100800, 0⟩, []) := by
  simpa using date_decode 2147483647 (by decide) []

/-- the instant `time.Unix(0, n)` denotes is `n` nanoseconds, in normal form -/
theorem ofUnixNano_nanos (n : Int) :
    (ofUnixNano n).nanos = n ∧ 0 ≤ (ofUnixNano n).nsec ∧ (ofUnixNano n).nsec < 1000000000 := by
  simp only [ofUnixNano, Instant.nanos]; omega

/-- **Long, decode**: for each of the three interpretations (nanoseconds, microseconds,
milliseconds), every long `l` whose instant `l * ρ` is representable in int64 nanoseconds decodes
to exactly that instant. -/
theorem long_decode (ρ : Res) (l : Int) (hl : inRange 64 l) (hr : inRange 64 (l * ρ.mult))
    (rest : Bytes) :
    longRead ρ.mult (writeInt 64 l ++ rest) = .ok (ofUnixNano (l * ρ.mult), rest) := by
  unfold longRead
  rw [readInt_writeInt (by decide) hl]
  simp [longDecode, wrapS_id (by decide) hr]

/-- the same statement in terms of the nanosecond count of the result -/
theorem long_decode_nanos (ρ : Res) (l : Int) (hl : inRange 64 l) (hr : inRange 64 (l * ρ.mult))
    (rest : Bytes) :
    ∃ t, longRead ρ.mult (writeInt 64 l ++ rest) = .ok (t, rest) ∧ t.nanos = l * ρ.mult ∧
      0 ≤ t.nsec ∧ t.nsec < 1000000000 :=
  ⟨_, long_decode ρ l hl hr rest, ofUnixNano_nanos _⟩

/-- non-vacuity: −1 ms is 1969-12-31T23:59:59.999; −1 µs; −1 ns -/
example : longRead Res.ms.mult (writeInt 64 (-1)) = .ok (⟨-1, 999000000⟩, []) := by
  simpa [ofUnixNano, Res.mult] using long_decode .ms (-1) (by decide) (by decide) []
example : longRead Res.us.mult (writeInt 64 (-1)) = .ok (⟨-1, 999999000⟩, []) := by
  simpa [ofUnixNano, Res.mult] using long_decode .us (-1) (by decide) (by decide) []
example : longRead Res.ns.mult (writeInt 64 (-1)) = .ok (⟨-1, 999999999⟩, []) := by
  simpa [ofUnixNano, Res.mult] using long_decode .ns (-1) (by decide) (by decide) []

/-- Without the hypothesis the product wraps: 2^63/1000 + 1 microseconds decode to a time
before 1970 (shows the hypothesis of `long_decode` is needed, and that the model keeps the wrap). -/
theorem long_decode_wraps : (longDecode 1000 9223372036854776).nanos < 0 := by decide

/-- `DateCodec.Write` stores the floor of seconds/86400 (also before 1970), wrapped to int32 -/
theorem dateEncodeDay_eq (t : Instant) : dateEncodeDay t = wrapS 32 (t.sec / 86400) := by
  -- truncated division is the floor, or one above it exactly when the remainder is negative, and
  -- wrapping commutes with the decrement; after unfolding, both are linear facts about `/` and `%`
  unfold dateEncodeDay wrapS
  simp only [Int.tdiv_eq_ediv, Int.tmod_eq_emod, Int.dvd_iff_emod_eq_zero, (by decide : Int.sign 86400 = 1)]
  split <;> split <;> omega

theorem dateEncodeDay_floor (t : Instant) (hr : inRange 32 (t.sec / 86400)) :
    dateEncodeDay t = t.sec / 86400 := by
  rw [dateEncodeDay_eq, wrapS_id (by decide) hr]

/-- **Date, encode inverts**: writing any time whose day number fits an int32 and reading it
back gives the start of that UTC day — the floor, also for times before 1970. -/
theorem date_encode_inverts (t : Instant) (hr : inRange 32 (t.sec / 86400)) (rest : Bytes) :
    dateRead (dateWrite t ++ rest) = .ok (⟨t.sec / 86400 * 86400, 0⟩, rest) := by
  rw [dateWrite, dateEncodeDay_floor t hr]
  exact date_decode _ hr rest

/-- non-vacuity, before 1970: 1969-12-30T12:00:00 (−129600 s) is stored as day −2 and reads back as
1969-12-30T00:00:00 (−172800 s); truncation toward zero would give day −1 -/
example : dateEncodeDay ⟨-129600, 0⟩ = -2 := by decide
example : dateRead (dateWrite ⟨-129600, 5⟩) = .ok (⟨-172800, 0⟩, []) := by
  simpa using date_encode_inverts ⟨-129600, 5⟩ (by decide) []
example : dateRead (dateWrite ⟨129600, 5⟩) = .ok (⟨86400, 0⟩, []) := by
  simpa using date_encode_inverts ⟨129600, 5⟩ (by decide) []

/-- `LongCodec.Write` stores `floor(nanos / ρ)`, wrapped to int64 -/
theorem longEncode_eq (ρ : Res) (t : Instant) : longEncode ρ.mult t = wrapS 64 (t.nanos / ρ.mult) := by
  cases ρ <;> simp only [longEncode, Res.mult, Instant.nanos] <;> exact congrArg (wrapS 64) (by omega)

/-- the multipliers are ≥ 1, so a long whose instant fits int64 nanoseconds is itself an int64 -/
theorem inRange_of_mul_mult (ρ : Res) {l : Int} (hr : inRange 64 (l * ρ.mult)) : inRange 64 l := by
  unfold inRange at *
  cases ρ <;> simp only [Res.mult] at hr <;> omega

theorem longEncode_floor (ρ : Res) (t : Instant)
    (hr : inRange 64 (floorNanos ρ.mult t)) : longEncode ρ.mult t = t.nanos / ρ.mult := by
  rw [longEncode_eq, wrapS_id (by decide) (inRange_of_mul_mult ρ hr)]

/-- **Long, encode inverts**: for each of the three interpretations, writing any time `t`
(before or after 1970) whose floor to the resolution is representable in int64 nanoseconds and
reading it back yields `t` rounded down to that resolution.  (A Go `time.Time` always has
`0 ≤ nsec < 10^9`; the statement does not even need that.) -/
theorem long_encode_inverts (ρ : Res) (t : Instant)
    (hr : inRange 64 (floorNanos ρ.mult t)) (rest : Bytes) :
    longRead ρ.mult (longWrite ρ.mult t ++ rest) = .ok (ofUnixNano (floorNanos ρ.mult t), rest) := by
  rw [longWrite, longEncode_floor ρ t hr]
  exact long_decode ρ _ (inRange_of_mul_mult ρ hr) hr rest

/-- The property's clause in one statement: `decode ρ (encode ρ t) = floor of t to resolution ρ`
for the date type and the three long types. -/
theorem encode_inverts :
    (∀ (t : Instant) (rest : Bytes), inRange 32 (t.sec / 86400) →
      dateRead (dateWrite t ++ rest) = .ok (⟨t.sec / 86400 * 86400, 0⟩, rest)) ∧
    (∀ (ρ : Res) (t : Instant) (rest : Bytes),
      inRange 64 (floorNanos ρ.mult t) →
      longRead ρ.mult (longWrite ρ.mult t ++ rest) = .ok (ofUnixNano (floorNanos ρ.mult t), rest)) :=
  ⟨fun t rest h => date_encode_inverts t h rest, fun ρ t rest hr => long_encode_inverts ρ t hr rest⟩

/-- at nanosecond resolution nothing is lost -/
theorem long_ns_exact (t : Instant) (hn : 0 ≤ t.nsec ∧ t.nsec < 1000000000)
    (hr : inRange 64 t.nanos) (rest : Bytes) :
    longRead 1 (longWrite 1 t ++ rest) = .ok (t, rest) := by
  have hf : floorNanos Res.ns.mult t = t.nanos := by simp [floorNanos, Res.mult]
  have := long_encode_inverts .ns t (by rw [hf]; exact hr) rest
  rw [hf] at this
  simp only [Res.mult] at this
  rw [this]
  obtain ⟨s, n⟩ := t
  simp only [ofUnixNano, Instant.nanos] at hn ⊢
  have h1 : (s * 1000000000 + n) / 1000000000 = s := by omega
  have h2 : (s * 1000000000 + n) % 1000000000 = n := by omega
  rw [h1, h2]

/-- non-vacuity, before 1970 with a sub-resolution part: 1969-12-31T23:59:59.9999995 is stored as
−1 ms / −1 µs and reads back as …59.999 / …59.999999 (floor, not truncation toward zero) -/
example : longEncode Res.ms.mult ⟨-1, 999999500⟩ = -1 := by decide
example : longRead Res.ms.mult (longWrite Res.ms.mult ⟨-1, 999999500⟩) = .ok (⟨-1, 999000000⟩, []) := by
  simpa [ofUnixNano, floorNanos, Instant.nanos, Res.mult]
    using long_encode_inverts .ms ⟨-1, 999999500⟩ (by decide) []
example : longRead Res.us.mult (longWrite Res.us.mult ⟨-1, 999999500⟩) = .ok (⟨-1, 999999000⟩, []) := by
  simpa [ofUnixNano, floorNanos, Instant.nanos, Res.mult]
    using long_encode_inverts .us ⟨-1, 999999500⟩ (by decide) []
example : longRead Res.ms.mult (longWrite Res.ms.mult ⟨1, 999999500⟩) = .ok (⟨1, 999000000⟩, []) := by
  simpa [ofUnixNano, floorNanos, Instant.nanos, Res.mult]
    using long_encode_inverts .ms ⟨1, 999999500⟩ (by decide) []

end Avro.C19
