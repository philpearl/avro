import AvroModel.Lemmas.Bytes
/-!
# C17 — Primitive wire encodings match the Avro specification exactly

Model: `AvroModel/Bytes.lean` (`writeVarint` = `WriteBuf.Varint`/`binary.AppendVarint`,
`readVarint` = `ReadBuf.Varint`/`uvarint`, `readInt w` = `IntCodec[T].Read`,
`putLE`/`getLE` = `fixedCodec` applied to float bit patterns).
All theorems are unbounded: every `Int` in the 64-bit range, every byte string.
-/
namespace Avro.C17

open Avro

/-- Decoding inverts encoding for every 64-bit value, whatever follows. -/
theorem varint_roundtrip (v : Int) (hv : inRange 64 v) (rest : Bytes) :
    readVarint (writeVarint v ++ rest) = .ok (v, rest) :=
  readVarint_writeVarint v hv rest

/-- At most ten bytes, at least one. -/
theorem varint_length (v : Int) (hv : inRange 64 v) :
    1 ≤ (writeVarint v).length ∧ (writeVarint v).length ≤ 10 :=
  ⟨putUvarint_length_pos _,
    putUvarint_length_le _ 10 (Nat.lt_of_lt_of_le (zigzag_lt hv) (by decide)) (by omega)⟩

/-- The encoder emits the canonical form (`Canonical`: no redundant trailing zero group); that no
shorter byte string decodes to the value is `varint_shortest`. -/
theorem varint_canonical (v : Int) : Canonical (writeVarint v) := putUvarint_canonical _

/-- Shortest form: no byte string that decodes to `v` is shorter than what the encoder writes. -/
theorem varint_shortest (bs : Bytes) (v : Int) (rest : Bytes)
    (h : readVarint bs = .ok (v, rest)) :
    (writeVarint v).length + rest.length ≤ bs.length := by
  obtain ⟨n, hu, rfl⟩ := readVarint_ok h
  obtain ⟨k, hk1, hlen, hr, _⟩ := readUvarint_ok hu
  have := putUvarint_length_le n k hr hk1
  rw [writeVarint, zigzag_unzig]; omega

/-- A successfully decoded value always is a 64-bit value (no silent wrap). -/
theorem readVarint_inRange (bs : Bytes) (v : Int) (rest : Bytes)
    (h : readVarint bs = .ok (v, rest)) : inRange 64 v := by
  obtain ⟨n, hu, rfl⟩ := readVarint_ok h
  obtain ⟨_, _, _, _, h64⟩ := readUvarint_ok hu
  exact unzig_inRange h64

theorem readVarint_split (pre : Bytes) (t : UInt8) (rest : Bytes)
    (hpre : ∀ b ∈ pre, 128 ≤ b.toNat) (ht : t.toNat < 128) :
    ∃ v, readVarint (pre ++ t :: rest) =
      if pre.length > 9 ∨ (pre.length = 9 ∧ t.toNat > 1) then .error .overflow else .ok (v, rest) := by
  obtain ⟨x', _, hx'⟩ := readUvarint_split pre t rest hpre ht
  refine ⟨unzig (x' + t.toNat * 2 ^ (7 * pre.length)), ?_⟩
  rw [readVarint, hx']
  by_cases hc : pre.length > 9 ∨ (pre.length = 9 ∧ t.toNat > 1)
  · simp only [if_pos hc]
  · simp only [if_neg hc]

/-- Error clause 2 and 3: longer than ten bytes, or a tenth byte above 1 (overflows 64 bits). -/
theorem varint_overflow (pre : Bytes) (t : UInt8) (rest : Bytes)
    (hpre : ∀ b ∈ pre, 128 ≤ b.toNat) (ht : t.toNat < 128)
    (hbad : pre.length > 9 ∨ (pre.length = 9 ∧ t.toNat > 1)) :
    readVarint (pre ++ t :: rest) = .error .overflow := by
  obtain ⟨v, hv⟩ := readVarint_split pre t rest hpre ht
  rw [hv, if_pos hbad]

/-- Error clause 1: a truncated varint (every byte has the continuation bit) is an error. -/
theorem varint_eof (bs : Bytes) (h : ∀ b ∈ bs, 128 ≤ b.toNat) : readVarint bs = .error .eof := by
  rw [readVarint, readUvarint_cont h]

/-- Conversely (`bytes_split`): every byte string either is all-continuation (EOF) or has a first
byte below 0x80.  So the three error clauses are the only errors. -/
theorem varint_errors_complete (bs : Bytes) (e : VErr) (h : readVarint bs = .error e) :
    (e = .eof ∧ ∀ b ∈ bs, 128 ≤ b.toNat) ∨
    (e = .overflow ∧ ∃ pre t rest, bs = pre ++ t :: rest ∧ (∀ b ∈ pre, 128 ≤ b.toNat) ∧
        t.toNat < 128 ∧ (pre.length > 9 ∨ (pre.length = 9 ∧ t.toNat > 1))) := by
  rcases bytes_split bs with hall | ⟨pre, t, rest, rfl, hp, ht⟩
  · left; rw [varint_eof bs hall] at h; cases h; exact ⟨rfl, hall⟩
  · right
    obtain ⟨v, hv⟩ := readVarint_split pre t rest hp ht
    rw [hv] at h
    split at h
    · cases h; exact ⟨rfl, pre, t, rest, rfl, hp, ht, ‹_›⟩
    · cases h

/-- Width clause: `IntCodec[T].Read` succeeds exactly when the decoded value fits `T`;
otherwise it is an error — there is no truncating store. -/
theorem width (w : Nat) (bs : Bytes) (v : Int) (rest : Bytes) :
    readInt w bs = .ok (v, rest) ↔ (readVarint bs = .ok (v, rest) ∧ inRange w v) := by
  unfold readInt
  cases hr : readVarint bs with
  | error e => simp
  | ok p =>
    obtain ⟨v', rest'⟩ := p
    by_cases hin : inRange w v'
    · simp [hin]; rintro rfl rfl; exact hin
    · simp [hin]; rintro rfl rfl; exact hin

theorem width_reject (w : Nat) (bs : Bytes) (v : Int) (rest : Bytes)
    (h : readVarint bs = .ok (v, rest)) (hout : ¬ inRange w v) :
    readInt w bs = .error .range := by
  unfold readInt; rw [h]; simp [hout]

/-- Decoding inverts encoding for every value of every supported width (16, 32, 64). -/
theorem int_roundtrip (w : Nat) (hw : 1 ≤ w) (hw64 : w ≤ 64) (v : Int) (hv : inRange w v) (rest : Bytes) :
    readInt w (writeInt w v ++ rest) = .ok (v, rest) :=
  readInt_writeInt hw64 hv rest

/-- float: 4 bytes little-endian, round-trips every bit pattern (NaN payloads included). -/
theorem f32_roundtrip (bits : Nat) (h : bits < 2 ^ 32) (rest : Bytes) :
    readF32 (writeF32 bits ++ rest) = some (bits, rest) := by
  rw [readF32, writeF32, readFixedBits_putLE, Nat.mod_eq_of_lt h]

/-- double: 8 bytes little-endian, round-trips every bit pattern. -/
theorem f64_roundtrip (bits : Nat) (h : bits < 2 ^ 64) (rest : Bytes) :
    readF64 (writeF64 bits ++ rest) = some (bits, rest) := by
  rw [readF64, writeF64, readFixedBits_putLE, Nat.mod_eq_of_lt h]

/-- The least significant byte comes first (little-endian). -/
theorem f32_le (bits : Nat) : writeF32 bits =
    [(bits % 256).toUInt8, (bits / 256 % 256).toUInt8, (bits / 256 / 256 % 256).toUInt8,
     (bits / 256 / 256 / 256 % 256).toUInt8] := by
  simp [writeF32, putLE]

/-- float32 fields carried as doubles (`Float32DoubleCodec`): the hardware conversions are
parameters; whenever narrowing inverts widening (true of IEEE-754 for every non-NaN float32,
validated by the correspondence run) the field round-trips exactly. -/
theorem f32_as_double (widen narrow : Nat → Nat) (b : Nat)
    (hw : widen b < 2 ^ 64) (hinv : narrow (widen b) = b) (rest : Bytes) :
    (readF64 (writeF64 (widen b) ++ rest)).map (fun p => (narrow p.1, p.2)) = some (b, rest) := by
  rw [f64_roundtrip _ hw]; simp [hinv]

/-- bool: one byte, 0 or 1; any non-zero byte reads as true. -/
theorem bool_roundtrip (b : Bool) (rest : Bytes) : readBool (writeBool b ++ rest) = some (b, rest) := by
  cases b <;> simp [writeBool, readBool]

/-! ### Zig-zag agrees with the specification's bit-level definition `(n << 1) ^ (n >> 63)` -/

theorem zigzag_spec (v : BitVec 64) :
    zigzag v.toInt = ((v <<< 1) ^^^ (v.sshiftRight 63)).toNat := by
  have hlt := v.isLt
  have hmsb := BitVec.msb_eq_decide v
  have hint := BitVec.toInt_eq_msb_cond v
  -- the arithmetic shift by 63 leaves only copies of the sign bit
  cases hm : v.msb <;> simp [hm] at hmsb hint
  · have hs : v.sshiftRight 63 = 0#64 := by
      apply BitVec.eq_of_toInt_eq
      rw [BitVec.toInt_sshiftRight, hint, Int.shiftRight_eq_div_pow]; simp; omega
    rw [hs, BitVec.xor_zero, BitVec.toNat_shiftLeft, zigzag, hint, Nat.shiftLeft_eq]
    split <;> omega
  · have hs : v.sshiftRight 63 = BitVec.allOnes 64 := by
      apply BitVec.eq_of_toInt_eq
      rw [BitVec.toInt_sshiftRight, hint, Int.shiftRight_eq_div_pow]; simp; omega
    rw [hs, BitVec.xor_allOnes, BitVec.toNat_not, BitVec.toNat_shiftLeft, zigzag, hint,
      Nat.shiftLeft_eq]
    split <;> omega

/-! ### Non-vacuity: the hypotheses are met by concrete non-trivial values -/
example : inRange 64 (-9223372036854775808) ∧ inRange 16 (-32768) ∧ ¬ inRange 16 32768 := by
  unfold inRange; omega
example : writeVarint (-1) = [1] ∧ writeVarint 64 = [0x80, 0x01] := by
  simp [writeVarint, zigzag, putUvarint]
example : readVarint [0x80, 0x80, 0x80, 0x80, 0x80, 0x80, 0x80, 0x80, 0x80, 0x02] = .error .overflow := by
  simp [readVarint, readUvarint, readUvarintAux]

end Avro.C17
