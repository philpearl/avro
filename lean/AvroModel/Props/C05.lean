import AvroModel.Lemmas.Typing
import AvroModel.Lemmas.BuildSteps
import AvroModel.Generated.LeafTable
/-!
# C05 — Decoder construction is type-sound and decoding stays inside the destination

The codec model (`Codec.lean`) decodes into abstract Go values, `Typing.lean` adds the judgement
`wt c T` ("every load/store of codec `c` through `p : *T` fits `T`: same store width as the field,
same fixed length, field indices of this struct, element/pointee/value types of this slice/pointer/
map") and `HasType v T`.  In that setting the property reads: whatever `buildCodec` builds for a Go type is `wt`
against it; a `wt` codec never performs a store through a pointer of the wrong shape (`Outcome.stuck`) and what it
leaves in the destination is again a value of the destination's own type; the mismatched pairs are errors of
`buildCodec`, not run-time discoveries.  The tie to the code is the table REGENERATED BY EXECUTION of the real
`Schema.Codec` + `Read` on every run (schema type × Go kind, canary-filled holder): every accepted pair keeps its
measured stores inside `[0, sizeof T)` of the field, and the model accepts exactly the pairs the implementation
accepts.

Side condition `allocOK c`: every codec in an element position (array item, map value, pointer target)
allocates its element.  It fails only for element schemas that are `null` (or unions of nulls only):
`null_element_witness` below.  That is an artefact of the value model, which has no typed zero for a codec that
allocates nothing (`Codec.zero .null = .unit`); the library leaves zero elements in arrays and, in maps, stores a
fresh zero element when `valueCodec.New` returns nil (map.go:49-54; before that repair, finding D31, it handed the
nil pointer to `mapassign` and panicked).
-/
namespace Avro.C05

/-- **C05, "yields a decoder that writes … a value of that field's own type" (construction side).** -/
theorem build_wt (reg : Reg) (hlib : reg.lib = true) (hreg : ∀ id, reg.custom id = none) (n : Nat) (s : Schema)
    (T : GoType) (oe : Bool) (c : Codec) (hwf : T.wf = true) (hb : buildCodec reg n s (some T) oe = .ok c)
    (hal : allocOK c = true) : wt c T = true :=
  (buildWtAt reg hreg hlib n).build s T oe c hb hwf hal

/-- the same for the `switch schema.Type` part alone (not reached with a registered type for a non-union schema) -/
theorem build_wt_kind (reg : Reg) (hlib : reg.lib = true) (hreg : ∀ id, reg.custom id = none) (n : Nat) (s : Schema)
    (T : GoType) (oe : Bool) (c : Codec) (hwf : T.wf = true) (hb : buildKind reg n s (some T) oe = .ok c)
    (hk : s.type = "union" ∨ s.type = "null" ∨ libType T = false) (hal : allocOK c = true) : wt c T = true :=
  (buildWtAt reg hreg hlib n).kind s T oe c hb hwf hk hal

theorem build_wt_union (reg : Reg) (hlib : reg.lib = true) (hreg : ∀ id, reg.custom id = none) (n : Nat)
    (bs : List Schema) (T : GoType) (oe : Bool) (c : Codec) (hwf : T.wf = true)
    (hb : buildUnion reg n bs (some T) oe = .ok c) (hal : allocOK c = true) : wt c T = true :=
  (buildWtAt reg hreg hlib n).union bs T oe c hb hwf hal

theorem build_wt_branches (reg : Reg) (hlib : reg.lib = true) (hreg : ∀ id, reg.custom id = none) (n : Nat)
    (bs : List Schema) (T : GoType) (oe : Bool) (cs : List Codec) (hwf : T.wf = true)
    (hb : buildBranches reg n bs (some T) oe = .ok cs) (hal : allocOKAll cs = true) : wtAll cs T = true :=
  (buildWtAt reg hreg hlib n).branches bs T oe cs hb hwf hal

/-- record codecs: every field with a target has the index of a field of *this* struct (the offset
`recordCodec.Read` adds is inside the struct) and a codec that fits that field's type; fields without a
target are only skipped. -/
theorem build_wt_fields (reg : Reg) (hlib : reg.lib = true) (hreg : ∀ id, reg.custom id = none) (n : Nat)
    (sfs : List SchemaField) (gfs : List GoField) (cs : List Codec) (ts : List (Option Nat))
    (hwf : wfFields gfs = true) (hb : buildFields reg n sfs (some gfs) = .ok (cs, ts))
    (hal : allocOKFields cs ts = true) : wtFields cs ts gfs = true :=
  (buildWtAt reg hreg hlib n).fields sfs gfs cs ts hb hwf hal

/-- target of the examples: `struct{ Pre int64; A int16 "json:a"; B *[]int32 "json:b"; Post int64 }` -/
def exT : GoType := .struct "T" "" [.mk "Pre" true "" "" (.int 64), .mk "A" true "a" "" (.int 16),
  .mk "B" true "b" "" (.ptr (.slice (.int 32))), .mk "Post" true "" "" (.int 64)]
theorem exT_wf : exT.wf = true := by decide +kernel
/-- `record{a: long, x: string, b: array<int>}` -/
def exS : Schema := .mk "record" (some (.mk "" "" "r" "" [.mk "a" (.prim "long"), .mk "x" (.prim "string"),
  .mk "b" (.mk "array" (some (.mk "" "" "" "" [] (.prim "int") Schema.zero 0 [])) [])] Schema.zero Schema.zero 0 [])) []

/-- Non-vacuity: a record with an int16 field, a skipped field and a `*[]int32` field builds, allocates in
every element position, and the int16 field got the 16-bit codec at field index 1. -/
example : (match buildCodec regLib 10 exS (some exT) false with
    | .ok (.record _ [.int 16 false, .string false, .pointer (.array (.int 32 false) false)] [some 1, none, some 2]) => true
    | _ => false) = true := by
  decide +kernel
/-- a theorem and not an `example` because the non-vacuity example of `Props/C06.lean` starts from the same codec -/
theorem exS_builds_wt : (match buildCodec regLib 10 exS (some exT) false with
    | .ok c => allocOK c && wt c exT
    | _ => false) = true := by
  decide +kernel
example : (match buildCodec regLib 10 exS (some exT) false with
    | .ok c => allocOK c && wt c exT
    | _ => false) = true := exS_builds_wt
example : exT.wf = true := exT_wf

/-- **C05, "writes only inside the destination field" (abstract form).** A well-typed codec reading into a
destination of the matching Go type never stores through a pointer of the wrong shape. -/
theorem wt_no_stuck (env : Env) (n : Nat) (c : Codec) (T : GoType) (bs : Bytes) (dst : GoVal)
    (hw : wt c T = true) (hal : allocOK c = true) (hd : HasType dst T = true) :
    read env n c bs dst ≠ .stuck :=
  ((soundAt env n).read c T bs dst hw hal hd).1

/-- **C05, "with a value of that field's own type".** What a successful decode leaves behind is again a value
of the destination's Go type: an `int16` field holds a number in the 16-bit range, a `[n]byte` field exactly `n`
bytes, a struct exactly its fields, … (time values: whatever the parser / `time.Unix` / `time.Date` return is a
`time.Time`, so no hypothesis on `env` is needed). -/
theorem wt_preserves (env : Env) (n : Nat) (c : Codec) (T : GoType) (bs : Bytes) (dst : GoVal)
    (hw : wt c T = true) (hal : allocOK c = true) (hd : HasType dst T = true) (v : GoVal) (r : Bytes)
    (hr : read env n c bs dst = .ok (v, r)) : HasType v T = true :=
  ((soundAt env n).read c T bs dst hw hal hd).2 (v, r) hr

/-- the same for the field loop of a record: sibling fields keep values of their own types -/
theorem wt_fields_preserve (env : Env) (n : Nat) (cs : List Codec) (ts : List (Option Nat)) (fs : List GoField)
    (bs : Bytes) (vals : List GoVal) (hw : wtFields cs ts fs = true) (hal : allocOKFields cs ts = true)
    (hd : hasTyFields fs vals = true) :
    readFields env n cs ts bs vals ≠ .stuck ∧
    ∀ vals' r, readFields env n cs ts bs vals = .ok (vals', r) → hasTyFields fs vals' = true :=
  let h := (soundAt env n).readFields cs ts fs bs vals hw hal hd
  ⟨h.1, fun vals' r hr => h.2 (vals', r) hr⟩

/-- **Composition.** A decoder built for `(schema, T)` and run on any bytes against any destination of type `T`
(in particular the zero value `ReadFile` starts from) neither corrupts memory nor leaves an ill-typed value. -/
theorem decode_stays_typed (reg : Reg) (hlib : reg.lib = true) (hreg : ∀ id, reg.custom id = none) (nb : Nat)
    (s : Schema) (T : GoType) (oe : Bool) (c : Codec) (hwf : T.wf = true)
    (hb : buildCodec reg nb s (some T) oe = .ok c) (hal : allocOK c = true)
    (env : Env) (n : Nat) (bs : Bytes) (dst : GoVal) (hd : HasType dst T = true) :
    read env n c bs dst ≠ .stuck ∧ ∀ v r, read env n c bs dst = .ok (v, r) → HasType v T = true :=
  have hw := build_wt reg hlib hreg nb s T oe c hwf hb hal
  ⟨wt_no_stuck env n c T bs dst hw hal hd, fun v r hr => wt_preserves env n c T bs dst hw hal hd v r hr⟩

/-- the zero value of every Go type is a value of that type (the destination `ReadFile` allocates) -/
theorem zero_hasType (T : GoType) : HasType (zeroVal T) T = true := zeroVal_hasTy T

/-- `stuck` is not vacuous: a record codec run against a destination that is not a struct, or with a field index
outside the struct, gets stuck. -/
example (env : Env) : read env 5 (.record [] [.int 64 false] [some 0]) [2] (.int 0) = .stuck := rfl
example (env : Env) : read env 5 (.record [.int 0] [.int 64 false] [some 3]) [2] (.struct [.int 0]) = .stuck := rfl

/-- **C05, "unsupported integer widths" / store width.** `buildLongCodec`: the codec chosen for an integer
kind has exactly that kind's width, so `*(*T)(p) = T(i)` writes `sizeof(field)` bytes. -/
theorem int_width_exact_long (k : GoType) (oe : Bool) (c : Codec) (h : buildLong (some k) oe = .ok c) :
    ∃ w, c = .int w oe ∧ (k = .int w ∨ ∃ id, k = .custom id (.int w)) ∧ (w = 16 ∨ w = 32 ∨ w = 64) := by
  obtain ⟨w, hc, hw, hk⟩ := buildLong_inv h
  exact ⟨w, hc, hk _ rfl, hw⟩

/-- so an `int16` field never gets a 32- or 64-bit store (D01, the defect of the pinned tree) -/
theorem int_width_exact (reg : Reg) (n : Nat) (s : Schema) (T : GoType) (oe : Bool) (c : Codec)
    (hs : s.type = "long" ∨ s.type = "int") (hwf : T.wf = true) (hp : isPtr T = false)
    (hr : regLookup reg T = none) (hb : buildCodec reg n s (some T) oe = .ok c) :
    ∃ w, c = .int w oe ∧ T.strip = .int w ∧ (w = 16 ∨ w = 32 ∨ w = 64) := by
  cases n with
  | zero => simp [buildCodec] at hb
  | succ n =>
    rw [buildCodec_kind (fun e h => by simp [h, isPtr] at hp) hr] at hb
    cases n with
    | zero => simp [buildKind] at hb
    | succ n =>
      have hb' : buildLong (some T.strip) oe = .ok c := by
        cases buildKind_inv hb with
        | long _ h => exact h
        | _ => rcases hs with hs | hs <;> simp_all
      obtain ⟨w, rfl, hk, hw⟩ := int_width_exact_long _ _ _ hb'
      refine ⟨w, rfl, ?_, hw⟩
      rcases hk with hk | ⟨id, hk⟩
      · exact hk
      · exact absurd hk (strip_ne_custom hwf _ _)

/-- The D01 counter-factual (the pinned tree gave `int16` fields the 32-bit codec): such a pairing is not
well-typed, and the ill-typed codec does deliver a value that no `int16` holds. -/
example (o : Bool) : wt (.int 32 o) (.int 16) = false := rfl
example (o : Bool) : wt (.int 16 o) (.int 16) = true := rfl
example (env : Env) : ∃ v r, read env 3 (.int 32 false) [0x80, 0xF1, 0x04] (.int 0) = .ok (v, r) ∧ HasType v (.int 16) = false :=
  ⟨.int 40000, [], by simp [read, rdInt, readInt, readVarint, readUvarint, readUvarintAux, unzig, inRange], by decide +kernel⟩

/-- does Go kind `k` (already stripped of a type name) suit the schema type? — the kind guards of
buildBoolCodec … buildRecordCodec (build.go:88-208, 288) as one table.  `null` and `union` have no guard of
their own (a union is decided by its branches). -/
def kindCompat (s : Schema) (k : GoType) : Bool :=
  if s.type == "boolean" then (match k with | .bool => true | _ => false)
  else if s.type == "int" || s.type == "long" then (match k with | .int 16 | .int 32 | .int 64 => true | _ => false)
  else if s.type == "float" then (match k with | .float32 => true | _ => false)
  else if s.type == "double" then (match k with | .float32 | .float64 => true | _ => false)
  else if s.type == "bytes" then (match k with | .slice (.uint 8) => true | _ => false)
  else if s.type == "string" then (match k with | .string => true | _ => false)
  else if s.type == "record" then (match k with | .struct _ _ _ | .time | .nullT _ => true | _ => false)
  else if s.type == "enum" then false
  else if s.type == "array" then (match k with | .slice _ => true | _ => false)
  else if s.type == "map" then (match k with | .map key _ => (match key.strip with | .string => true | _ => false) | _ => false)
  else if s.type == "fixed" then
    (match k, s.object with
     | .array n (.uint 8), some o => decide ((n : Int) = o.size)
     | _, _ => false)
  else true

theorem errOf {α : Type} (e : String) : ∃ e', (Except.error e : Except String α) = .error e' := ⟨e, rfl⟩

/-- **C05, "Mismatched pairs … are rejected when the decoder is built".** -/
theorem kind_mismatch_rejected (reg : Reg) (n : Nat) (s : Schema) (T : GoType) (oe : Bool) (hwf : T.wf = true)
    (hk : kindCompat s T.strip = false) : ∃ e, buildKind reg n s (some T) oe = .error e := by
  cases n with
  | zero => exact ⟨_, rfl⟩
  | succ n =>
    cases hb : buildKind reg (n + 1) s (some T) oe with
    | error e => exact ⟨e, rfl⟩
    | ok c =>
      -- every arm that succeeds has passed its guard
      refine absurd ?_ (Bool.eq_false_iff.mp hk)
      unfold kindCompat
      cases buildKind_inv hb with
      | long hs h =>
        obtain ⟨w, -, hT | ⟨id, hT⟩, hw⟩ := int_width_exact_long _ _ _ h
        · rcases hs with hs | hs <;> rcases hw with rfl | rfl | rfl <;> simp [hs, hT]
        · exact absurd hT (strip_ne_custom hwf _ _)
      | recordLib hs _ hT => rcases hT with hT | ⟨k, hT⟩ <;> simp [hs, hT]
      | fixed hs ho hT =>
        obtain ⟨m, hT, hsz⟩ := hT _ rfl
        simp [hs, ho, hT, hsz]
      | map hs _ hT hkey => simp [hs, hT, hkey]
      | null hs | union hs => simp [hs]
      | boolean hs hT | float hs hT | double hs hT | bytes hs hT | string hs hT => simp [hs, hT _ rfl]
      | f32double hs hT | record hs _ hT | array hs _ hT => simp [hs, hT]

/-- the same at the entry point, for a Go type that is neither a pointer nor registered: `Schema.Codec` fails -/
theorem mismatch_rejected (reg : Reg) (n : Nat) (s : Schema) (T : GoType) (oe : Bool) (hwf : T.wf = true)
    (hp : isPtr T = false) (hr : regLookup reg T = none) (hk : kindCompat s T.strip = false) :
    ∃ e, buildCodec reg n s (some T) oe = .error e := by
  cases n with
  | zero => exact ⟨_, rfl⟩
  | succ n => rw [buildCodec_kind (fun e h => by simp [h, isPtr] at hp) hr]; exact kind_mismatch_rejected reg n s T oe hwf hk

/-- … behind any pointer: `buildPointerCodec` passes the element type's verdict on -/
theorem mismatch_rejected_ptr (reg : Reg) (n : Nat) (s : Schema) (e : GoType) (oe : Bool)
    (hs : s.type ≠ "union" ∧ s.type ≠ "null") (err : String) (h : buildCodec reg n s (some e) false = .error err) :
    buildCodec reg (n + 1) s (some (.ptr e)) oe = .error err := by
  simp [buildCodec, hs.1, hs.2, h]

theorem mismatch_rejected_elem (reg : Reg) (n : Nat) (s : Schema) (o : SchemaObject) (e : GoType) (oe : Bool)
    (hs : s.type = "array") (ho : s.object = some o) (err : String)
    (h : buildCodec reg n o.items (some e) false = .error err) :
    buildKind reg (n + 1) s (some (.slice e)) oe = .error err := by
  rw [buildKind_array hs ho, h]; rfl

theorem mismatch_rejected_value (reg : Reg) (n : Nat) (s : Schema) (o : SchemaObject) (k v : GoType) (oe : Bool)
    (hs : s.type = "map") (ho : s.object = some o) (err : String)
    (h : buildCodec reg n o.values (some v) false = .error err) :
    ∃ e, buildKind reg (n + 1) s (some (.map k v)) oe = .error e := by
  simp [buildKind, hs, ho, GoType.strip, h]
  split <;> simp

theorem long_rejected (reg : Reg) (n : Nat) (s : Schema) (T : GoType) (oe : Bool) (hwf : T.wf = true)
    (hs : s.type = "long" ∨ s.type = "int")
    (hk : T.strip ≠ .int 16 ∧ T.strip ≠ .int 32 ∧ T.strip ≠ .int 64) : ∃ e, buildKind reg n s (some T) oe = .error e := by
  refine kind_mismatch_rejected reg n s T oe hwf ?_
  unfold kindCompat
  rcases hs with h | h <;> simp [h] <;> split <;> simp_all

theorem unsigned_rejected (reg : Reg) (n : Nat) (s : Schema) (T : GoType) (oe : Bool) (hwf : T.wf = true)
    (hs : s.type = "long" ∨ s.type = "int") (w : Nat) (hk : T.strip = .uint w ∨ T.strip = .int 8) :
    ∃ e, buildKind reg n s (some T) oe = .error e := by
  refine long_rejected reg n s T oe hwf hs ?_
  rcases hk with h | h <;> simp [h]

theorem fixed_size_rejected (reg : Reg) (n : Nat) (s : Schema) (o : SchemaObject) (T : GoType) (oe : Bool) (hwf : T.wf = true)
    (hs : s.type = "fixed") (ho : s.object = some o) (m : Nat) (e : GoType) (hT : T.strip = .array m e)
    (hk : e ≠ .uint 8 ∨ (m : Int) ≠ o.size) : ∃ e, buildKind reg n s (some T) oe = .error e := by
  refine kind_mismatch_rejected reg n s T oe hwf ?_
  unfold kindCompat
  simp [hs, hT, ho]
  split <;> simp_all

theorem fixed_kind_rejected (reg : Reg) (n : Nat) (s : Schema) (T : GoType) (oe : Bool) (hwf : T.wf = true)
    (hs : s.type = "fixed") (hk : ∀ m e, T.strip ≠ .array m e) : ∃ e, buildKind reg n s (some T) oe = .error e := by
  refine kind_mismatch_rejected reg n s T oe hwf ?_
  unfold kindCompat
  simp [hs]
  split <;> simp_all

theorem bytes_rejected (reg : Reg) (n : Nat) (s : Schema) (T : GoType) (oe : Bool) (hwf : T.wf = true)
    (hs : s.type = "bytes") (hk : T.strip ≠ .slice (.uint 8)) : ∃ e, buildKind reg n s (some T) oe = .error e := by
  refine kind_mismatch_rejected reg n s T oe hwf ?_
  unfold kindCompat
  simp [hs]

theorem string_rejected (reg : Reg) (n : Nat) (s : Schema) (T : GoType) (oe : Bool) (hwf : T.wf = true)
    (hs : s.type = "string") (hk : T.strip ≠ .string) : ∃ e, buildKind reg n s (some T) oe = .error e := by
  refine kind_mismatch_rejected reg n s T oe hwf ?_
  unfold kindCompat
  simp [hs]

theorem boolean_rejected (reg : Reg) (n : Nat) (s : Schema) (T : GoType) (oe : Bool) (hwf : T.wf = true)
    (hs : s.type = "boolean") (hk : T.strip ≠ .bool) : ∃ e, buildKind reg n s (some T) oe = .error e := by
  refine kind_mismatch_rejected reg n s T oe hwf ?_
  unfold kindCompat
  simp [hs]

theorem float_rejected (reg : Reg) (n : Nat) (s : Schema) (T : GoType) (oe : Bool) (hwf : T.wf = true)
    (hs : s.type = "float") (hk : T.strip ≠ .float32) : ∃ e, buildKind reg n s (some T) oe = .error e := by
  refine kind_mismatch_rejected reg n s T oe hwf ?_
  unfold kindCompat
  simp [hs]

theorem double_rejected (reg : Reg) (n : Nat) (s : Schema) (T : GoType) (oe : Bool) (hwf : T.wf = true)
    (hs : s.type = "double") (hk : T.strip ≠ .float32 ∧ T.strip ≠ .float64) : ∃ e, buildKind reg n s (some T) oe = .error e := by
  refine kind_mismatch_rejected reg n s T oe hwf ?_
  unfold kindCompat
  simp [hs]
  split <;> simp_all

theorem record_rejected (reg : Reg) (n : Nat) (s : Schema) (T : GoType) (oe : Bool) (hwf : T.wf = true)
    (hs : s.type = "record") (hk : (∀ a b fs, T.strip ≠ .struct a b fs) ∧ T.strip ≠ .time ∧ ∀ k, T.strip ≠ .nullT k) :
    ∃ e, buildKind reg n s (some T) oe = .error e := by
  refine kind_mismatch_rejected reg n s T oe hwf ?_
  unfold kindCompat
  simp [hs]
  split <;> simp_all

theorem array_rejected (reg : Reg) (n : Nat) (s : Schema) (T : GoType) (oe : Bool) (hwf : T.wf = true)
    (hs : s.type = "array") (hk : ∀ e, T.strip ≠ .slice e) : ∃ e, buildKind reg n s (some T) oe = .error e := by
  refine kind_mismatch_rejected reg n s T oe hwf ?_
  unfold kindCompat
  simp [hs]

theorem map_rejected (reg : Reg) (n : Nat) (s : Schema) (T : GoType) (oe : Bool) (hwf : T.wf = true)
    (hs : s.type = "map") (hk : ∀ k v, T.strip ≠ .map k v) : ∃ e, buildKind reg n s (some T) oe = .error e := by
  refine kind_mismatch_rejected reg n s T oe hwf ?_
  unfold kindCompat
  simp [hs]

theorem map_key_rejected (reg : Reg) (n : Nat) (s : Schema) (T : GoType) (oe : Bool) (hwf : T.wf = true)
    (hs : s.type = "map") (k v : GoType) (hT : T.strip = .map k v) (hk : k.strip ≠ .string) :
    ∃ e, buildKind reg n s (some T) oe = .error e := by
  refine kind_mismatch_rejected reg n s T oe hwf ?_
  unfold kindCompat
  simp [hs, hT]

theorem enum_rejected (reg : Reg) (n : Nat) (s : Schema) (T : GoType) (oe : Bool) (hwf : T.wf = true)
    (hs : s.type = "enum") : ∃ e, buildKind reg n s (some T) oe = .error e := by
  refine kind_mismatch_rejected reg n s T oe hwf ?_
  unfold kindCompat
  simp [hs]

/-- Non-vacuity of the rejections (and of their hypotheses): uint16, int8, float64, string under `long`/`int`;
`[]int64` under bytes. -/
example : (∃ e, buildCodec regLib 5 (.prim "long") (some (.uint 16)) false = .error e) ∧
    (∃ e, buildCodec regLib 5 (.prim "long") (some (.int 8)) false = .error e) ∧
    (∃ e, buildCodec regLib 5 (.prim "int") (some .float64) false = .error e) ∧
    (∃ e, buildCodec regLib 5 (.prim "long") (some .string) false = .error e) ∧
    (∃ e, buildCodec regLib 5 (.prim "bytes") (some (.slice (.int 64))) false = .error e) :=
  ⟨mismatch_rejected _ _ _ _ _ rfl rfl rfl rfl, mismatch_rejected _ _ _ _ _ rfl rfl rfl rfl,
   mismatch_rejected _ _ _ _ _ rfl rfl rfl rfl, mismatch_rejected _ _ _ _ _ rfl rfl rfl rfl,
   mismatch_rejected _ _ _ _ _ rfl rfl rfl rfl⟩

/-- The side condition `allocOK` is not vacuous and excludes no ill-typed store: `map<null>` against
`map[string]int64` does build and is `wt`, only `allocOK` fails.  What is excluded is a pair for which the value model
has no typed zero; the library decodes it (zero elements; map.go:49-54 since the repair of D31). -/
theorem null_element_witness :
    (match buildCodec regLib 10 (.mk "map" (some (.mk "" "" "" "" [] Schema.zero (.prim "null") 0 [])) [])
      (some (.map .string (.int 64))) false with
     | .ok c => wt c (.map .string (.int 64)) && !allocOK c
     | .error _ => false) = true := by
  decide +kernel

/-- **The tie to the source.** The soundness condition evaluates to `true` on every row of the table that
`factgen` re-measured on this run by executing the real `Schema.Codec` and `Read` (kernel evaluation). -/
theorem leaf_table_sound : Generated.leafTable.all LeafRow.sound = true := by decide +kernel

/-- **C05 over the whole matrix (finite table ⇒ a proof, not a sample).** For every schema type × Go kind pair
that the real `Schema.Codec` accepts, decoding valid encodings of all-ones-like values (−1 and the extremes of the
schema type, NaN patterns, 0xFF bytes) modified only bytes inside `[0, sizeof(T))` of field `A`: nothing in the
padding, in the sibling fields `Pre`/`Post` (not named in the schema) or around them changed, nothing
panicked and the process survived a collection. -/
theorem leaf_sound : ∀ row ∈ Generated.leafTable, row.accepted = true →
    row.hi ≤ row.size ∧ 0 ≤ row.lo ∧ row.outside = false ∧ row.panicked = false ∧ row.crashed = false := by
  intro row hrow hacc
  have h := (List.all_eq_true.mp leaf_table_sound) row hrow
  simp only [LeafRow.sound, hacc, Bool.not_true, Bool.false_or, Bool.and_eq_true, decide_eq_true_eq,
    Bool.not_eq_true'] at h
  exact ⟨h.1.1.1.2, h.1.1.1.1, h.1.1.2, h.1.2, h.2⟩

/-- what the model builds is accepted by the implementation, well-typed and allocating; what it refuses is refused
there too, or is a width extension (one `buildCodec` per row serves both theorems below) -/
theorem leaf_model_table : Generated.leafTable.all (fun r =>
      match buildCodec regLib 10 r.schema (some r.goType) false with
      | .ok c => r.accepted && wt c r.goType && allocOK c
      | .error _ => !r.accepted || r.widthExtension) = true := by decide +kernel

/-- **The model accepts exactly the pairs the implementation accepts**, on the whole regenerated matrix
(so the construction theorems above speak about the decision procedure the code really implements: a relaxed
or dropped kind guard in build.go changes a row and breaks this theorem). The only tolerated difference is an
*integer-width extension*: a pair the model would accept with `int64` in place of the integer kinds, whose measured
stores cover exactly the field (e.g. a future correct `int8` codec); `leaf_sound` covers such rows as well. -/
theorem leaf_model_agrees : ∀ row ∈ Generated.leafTable,
    ((∃ c, buildCodec regLib 10 row.schema (some row.goType) false = .ok c) ↔ row.accepted = true) ∨
    row.widthExtension = true := by
  intro row hrow
  have h := (List.all_eq_true.mp leaf_model_table) row hrow
  split at h
  · rename_i c hc; simp only [Bool.and_eq_true] at h; exact .inl ⟨fun _ => h.1.1, fun _ => ⟨c, hc⟩⟩
  · rename_i e he
    cases hacc : row.accepted
    · exact .inl ⟨fun h => (by obtain ⟨c, hc⟩ := h; rw [he] at hc; cases hc), fun h => (by cases h)⟩
    · exact .inr (by simpa [hacc] using h)

/-- … and for every accepted pair the model's codec is well-typed against the kind and allocates in every
element position (the hypotheses of `wt_no_stuck` / `wt_preserves` hold on the whole matrix). -/
theorem leaf_accepted_wt : ∀ row ∈ Generated.leafTable, row.accepted = true → row.widthExtension = false →
    ∃ c, buildCodec regLib 10 row.schema (some row.goType) false = .ok c ∧ wt c row.goType = true ∧ allocOK c = true := by
  intro row hrow hacc hext
  have h := (List.all_eq_true.mp leaf_model_table) row hrow
  split at h
  · rename_i c hc; simp only [Bool.and_eq_true] at h; exact ⟨c, hc, h.1.2, h.2⟩
  · simp [hacc, hext] at h

/-- The table is not empty, has accepted and rejected rows, and contains the int16 rows that were wrong on
the pinned tree (2 bytes stored into a 2-byte field). -/
example : (Generated.leafTable.filter (·.accepted)).length ≥ 100 ∧ (Generated.leafTable.filter (!·.accepted)).length ≥ 500 := by
  decide +kernel
example : (Generated.leafTable.filter fun r => r.schemaName == "long" && r.kind == "int16" && r.accepted && r.hi == 2 && r.size == 2).length = 1 := by
  decide +kernel

/-- The soundness condition is not trivially true: the row measured on the pinned tree (long × int16: 4 bytes
stored into a 2-byte field, padding clobbered) fails it. -/
def pinnedRow : LeafRow :=
  { schemaName := "long", schema := Schema.prim "long", kind := "int16", goType := GoType.int 16, accepted := true, probes := 9, size := 2, lo := 0, hi := 4, outside := true, panicked := false, crashed := false }
example : pinnedRow.sound = false := by decide

end Avro.C05
