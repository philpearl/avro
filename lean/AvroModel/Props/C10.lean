import AvroModel.Lemmas.Bank
/-!
# C10 — Delivered values stay intact until their resource bank is closed

Model: `AvroModel/Bank.lean` (state machine of `ResourceBank`, `resourceBankPool`, handles, heap).
All theorems quantify over arbitrary operation sequences, any number of banks, every choice the pool
can make (`Op.get choice`) and every capacity `append` may pick when it grows (`Op.toString _ _ grow`),
under the documented ownership discipline `Allowed` / `Disciplined`.

The tie to `/repo/buffer.go` is the differential replay of real operation sequences through `step`
(`Drv/Bank.lean`, `harness/bank.go`), and for `no_block_alias` the file-retention runs of the harness.
-/
namespace Avro.C10
open Avro.Bank Avro.BankL

theorem step_alloc {w : World} (hinv : Inv w) (b τ nc : Nat) (hal : Allowed w (.alloc b τ nc)) :
    ∃ x i, AllocFacts w b τ nc x i ∧
      step w (.alloc b τ nc) = .ok (allocWorld w b τ nc x i) (.ptr ⟨b, (w.banks b).epoch, x, i⟩) := by
  obtain ⟨x, i, hf⟩ := alloc_facts hinv.t b τ nc hal.2.2
  refine ⟨x, i, hf, ?_⟩
  simp only [step, allocStep, hf.arr, hf.idx, hf.spare, if_true, allocWorld]

theorem map_writeAt (m : Nat → Nat → Nat) (x off : Nat) (bytes : List Nat) :
    ((List.range bytes.length).map fun i => writeAt m x off bytes x (off + i)) = bytes := by
  apply List.ext_getElem
  · simp
  · intro i h1 h2
    have h : i < bytes.length := by simpa using h1
    simp [writeAt, h]

/-- The three ways `ToString` can go (empty string from a nil `sData`, appended in place, reallocated) meet in
`TSFacts`. -/
theorem step_toString {w : World} (hinv : Inv w) (b : Nat) (bytes : List Nat) (g : Nat) :
    ∃ xo nx sd' m, TSFacts w b bytes g xo nx sd' m ∧ step w (.toString b bytes g) =
      .ok (tsWorld w b bytes.length xo nx sd' m) (.str ⟨b, (w.banks b).epoch, xo, (w.banks b).sdata.len, bytes.length⟩) := by
  have hS := hinv.s
  have h8 := hS.s8 b
  by_cases hfit : (w.banks b).sdata.len + bytes.length ≤ (w.banks b).sdata.cap
  · cases harr : (w.banks b).sdata.arr with
    | none =>
      obtain rfl : bytes = [] := List.eq_nil_of_length_eq_zero (by have := h8.2 harr; omega)
      refine ⟨none, w.nextSArr, (w.banks b).sdata, w.smem,
        ⟨harr, rfl, fun _ => h8, Nat.le_refl _, nofun, nofun, nofun, fun _ _ _ _ _ _ _ => rfl, fun _ => rfl, nofun⟩, ?_⟩
      have : tsWorld w b 0 none w.nextSArr (w.banks b).sdata w.smem =
          { w with sissued := ⟨b, (w.banks b).epoch, none, (w.banks b).sdata.len, 0⟩ :: w.sissued } := by
        unfold tsWorld; rw [show ({ w.banks b with sdata := (w.banks b).sdata } : BankSt) = w.banks b from rfl, upd_self]
      simp only [step, toStringStep, List.length_nil, Nat.add_zero, h8.1, if_true, harr, this]
    | some x =>
      refine ⟨some x, w.nextSArr, { (w.banks b).sdata with len := (w.banks b).sdata.len + bytes.length },
        writeAt w.smem x (w.banks b).sdata.len bytes,
        ⟨harr, rfl, fun _ => ⟨hfit, fun h => nomatch harr.symm.trans h⟩, Nat.le_refl _, ?_, ?_, ?_, ?_, nofun, ?_⟩, ?_⟩
      · rintro _ ⟨⟩; exact hS.s4 b x harr
      · rintro _ ⟨⟩ b' hb'; exact hS.s3 b' b x hb' harr
      · rintro _ ⟨⟩ s hs hl hx; exact hS.s1 s hs hl x hx b harr
      · -- the bytes are written at `len` and above, every live string of this array ends at or below `len`
        intro s hs hl y hy i hi
        simp only [writeAt]
        by_cases hxy : y = x
        · have := (hS.s1 s hs hl y hy b (hxy ▸ harr)).2
          have hlt : ¬ ((w.banks b).sdata.len ≤ s.start + i) := by omega
          simp [hlt]
        · simp [hxy]
      · rintro _ ⟨⟩; exact map_writeAt _ _ _ _
      · simp only [step, toStringStep, hfit, if_true, harr, tsWorld]
  · refine ⟨some w.nextSArr, w.nextSArr + 1, ⟨some w.nextSArr, (w.banks b).sdata.len + bytes.length, g⟩,
      writeAt (copyInto w.smem w.nextSArr (w.banks b).sdata.arr (w.banks b).sdata.len) w.nextSArr (w.banks b).sdata.len bytes,
      ⟨rfl, rfl, fun hg => ⟨hg, nofun⟩, Nat.le_succ _, ?_, ?_, ?_, ?_, nofun, ?_⟩, ?_⟩
    · rintro _ ⟨⟩; exact Nat.lt_succ_self _
    · rintro _ ⟨⟩ b' hb'; exact absurd (hS.s4 b' _ hb') (Nat.lt_irrefl _)
    · rintro _ ⟨⟩ s hs _ hx; exact absurd (hS.s2 s hs _ hx) (Nat.lt_irrefl _)
    · -- only the fresh array is written
      intro s hs _ y hy i _
      have hne : y ≠ w.nextSArr := Nat.ne_of_lt (hS.s2 s hs y hy)
      simp [writeAt, copyInto, hne]
    · rintro _ ⟨⟩; exact map_writeAt _ _ _ _
    · simp only [step, toStringStep, hfit, if_false, tsWorld]

/-- The invariant in the words of the property ("disjoint from every other live allocation"): at a state
satisfying it two different live pointers are different cells and live strings occupy pairwise disjoint byte
ranges. That later allocations stay away from them, and that their contents change only through a store to that
very handle, is `alloc_disjoint`, `toString_disjoint`, `delivered_stable`, `string_stable`. -/
structure Separated (w : World) : Prop where
  cells : ∀ h1 ∈ w.issued, ∀ h2 ∈ w.issued, w.Live h1 → w.Live h2 → h1 ≠ h2 → ¬ (h1.arr = h2.arr ∧ h1.idx = h2.idx)
  ranges : w.sissued.Pairwise fun s1 s2 => w.SLive s1 → w.SLive s2 →
    ∀ x, s1.arr = some x → s2.arr = some x → s1.start + s1.len ≤ s2.start ∨ s2.start + s2.len ≤ s1.start
  /-- no live pointer was handed out twice -/
  once : w.issued.Pairwise fun h1 h2 => w.Live h1 → w.Live h2 → ¬ (h1.arr = h2.arr ∧ h1.idx = h2.idx)

theorem pairwise_mem_ne {α : Type} {R : α → α → Prop} (hsym : ∀ a b, R a b → R b a) {l : List α}
    (hp : l.Pairwise R) {a b : α} (ha : a ∈ l) (hb : b ∈ l) (hne : a ≠ b) : R a b := by
  induction l with
  | nil => cases ha
  | cons c cs ih =>
    obtain ⟨h1, h2⟩ := List.pairwise_cons.mp hp
    rcases List.mem_cons.mp ha with rfl | ha'
    · rcases List.mem_cons.mp hb with rfl | hb'
      · exact absurd rfl hne
      · exact h1 b hb'
    · rcases List.mem_cons.mp hb with rfl | hb'
      · exact hsym _ _ (h1 a ha')
      · exact ih h2 ha' hb'

theorem separated_of_inv {w : World} (hinv : Inv w) : Separated w := by
  refine ⟨?_, hinv.s.s6, hinv.t.t6⟩
  intro h1 hh1 h2 hh2 l1 l2 hne
  have := pairwise_mem_ne (R := fun h1 h2 => w.Live h1 → w.Live h2 → CellNe h1 h2)
    (fun a b hR lb la hc => hR la lb ⟨hc.1.symm, hc.2.symm⟩) hinv.t.t6 hh1 hh2 hne
  exact this l1 l2

theorem sread_congr {w w' : World} {s : SHandle}
    (h : ∀ x, s.arr = some x → ∀ i, i < s.len → w'.smem x (s.start + i) = w.smem x (s.start + i)) :
    w'.sread s = w.sread s := by
  unfold World.sread
  cases harr : s.arr with
  | none => rfl
  | some x =>
    simp only
    apply List.map_congr_left
    intro i hi
    exact h x harr i (List.mem_range.mp hi)

/-- the bank an operation works on (`get none` creates a bank that did not exist) -/
def opBank : Op → Option Nat
  | .get c => c
  | .alloc b _ _ => some b
  | .toString b _ _ => some b
  | .store h _ => some h.bank
  | .close b => some b

/-- What one allowed step does: banks are only added; an epoch moves, by one, only when that bank is closed;
handles stay issued; for `read` and `sread` see `step_frame` and `string_stable`, which are these fields. -/
structure StepSpec (w : World) (op : Op) (w' : World) : Prop where
  inv : Inv w'
  nbanks : w.nbanks ≤ w'.nbanks
  epoch : ∀ b, b < w.nbanks → (w'.banks b).epoch = (w.banks b).epoch ∨
    (op = .close b ∧ (w'.banks b).epoch = (w.banks b).epoch + 1)
  issued : ∀ h ∈ w.issued, h ∈ w'.issued
  sissued : ∀ s ∈ w.sissued, s ∈ w'.sissued
  read : ∀ h ∈ w.issued, w.Live h → (∀ v, op ≠ .store h v) → w'.read h = w.read h
  sread : ∀ s ∈ w.sissued, w.SLive s → w'.sread s = w.sread s

theorem step_spec {w : World} (hinv : Inv w) {op : Op} (hal : Allowed w op) :
    ∃ w' r, step w op = .ok w' r ∧ StepSpec w op w' := by
  cases op with
  | get c =>
    cases c with
    | none =>
      exact ⟨_, _, rfl, inv_getNone hinv, Nat.le_succ _, fun b hb => .inl (congrArg BankSt.epoch (upd_other (Nat.ne_of_lt hb))),
        fun _ h => h, fun _ h => h, fun _ _ _ _ => rfl, fun _ _ _ => rfl⟩
    | some b0 =>
      exact ⟨_, _, rfl, inv_getSome hinv b0, Nat.le_refl _, fun b _ => .inl (upd_proj BankSt.epoch (by rfl) b),
        fun _ h => h, fun _ h => h, fun _ _ _ _ => rfl, fun _ _ _ => rfl⟩
  | alloc b0 τ nc =>
    obtain ⟨x, i, hf, hs⟩ := step_alloc hinv b0 τ nc hal
    refine ⟨_, _, hs, inv_alloc hinv b0 τ nc x i hal.1 hf, Nat.le_refl _,
      fun b _ => .inl (upd_proj BankSt.epoch (by rfl) b), fun _ h => List.mem_cons_of_mem _ h, fun _ h => h,
      fun h hh hl _ => ?_, fun _ _ _ => rfl⟩
    simp [World.read, allocWorld, upd2, hf.cellNe h hh hl]
  | toString b0 bytes g =>
    obtain ⟨xo, nx, sd', m, hf, hs⟩ := step_toString hinv b0 bytes g
    exact ⟨_, _, hs, inv_toString hinv hal.1 hal.2.2 hf, Nat.le_refl _, fun b _ => .inl (upd_proj BankSt.epoch (by rfl) b),
      fun _ h => h, fun _ h => List.mem_cons_of_mem _ h, fun _ _ _ _ => rfl,
      fun s hin hl => sread_congr (hf.frame s hin hl)⟩
  | store h' v =>
    refine ⟨_, _, rfl, inv_store hinv _, Nat.le_refl _, fun b _ => .inl rfl, fun _ h => h, fun _ h => h,
      fun h hh hl hns => ?_, fun _ _ _ => rfl⟩
    -- another live pointer is another cell
    have hne : h ≠ h' := fun e => hns v (by rw [e])
    have := (separated_of_inv hinv).cells h hh h' hal.1 hl hal.2 hne
    simp [World.read, upd2, this]
  | close b0 =>
    refine ⟨_, _, rfl, inv_close hinv b0, Nat.le_refl _, fun b _ => ?_, fun _ h => h, fun _ h => h,
      fun _ _ _ _ => rfl, fun _ _ _ => rfl⟩
    by_cases h : b = b0
    · subst h; exact .inr ⟨rfl, congrArg BankSt.epoch (upd_same _ _ _)⟩
    · exact .inl (congrArg BankSt.epoch (upd_other h))

theorem step_spec_of {w w' : World} {r : Ret} {op : Op} (hinv : Inv w) (hal : Allowed w op)
    (hs : step w op = .ok w' r) : StepSpec w op w' := by
  obtain ⟨w1, r1, hs1, sp⟩ := step_spec hinv hal
  rw [hs1] at hs; cases hs; exact sp

theorem StepSpec.epoch_back {w w' : World} {op : Op} (sp : StepSpec w op w') {b e : Nat} (hb : b < w.nbanks)
    (he : e ≤ (w.banks b).epoch) (h' : (w'.banks b).epoch = e) : (w.banks b).epoch = e := by
  rcases sp.epoch b hb with h | ⟨_, h⟩ <;> omega

theorem StepSpec.epoch_keep {w w' : World} {op : Op} (sp : StepSpec w op w') {b : Nat} (hb : b < w.nbanks)
    (hop : opBank op ≠ some b) : (w'.banks b).epoch = (w.banks b).epoch := by
  rcases sp.epoch b hb with h | ⟨rfl, _⟩
  · exact h
  · exact absurd rfl hop

/-- An allowed step never faults (no nil dereference, no cell outside its array) and keeps the invariant. -/
theorem step_inv {w : World} (hinv : Inv w) {op : Op} (hal : Allowed w op) :
    ∃ w' r, step w op = .ok w' r ∧ Inv w' := by
  obtain ⟨w', r, hs, sp⟩ := step_spec hinv hal
  exact ⟨w', r, hs, sp.inv⟩

theorem run_inv {w : World} (hinv : Inv w) (ops : List Op) (hd : Disciplined w ops) :
    ∃ w', run w ops = some w' ∧ Inv w' := by
  induction ops generalizing w with
  | nil => exact ⟨w, rfl, hinv⟩
  | cons op ops ih =>
    obtain ⟨hal, hrest⟩ := hd
    obtain ⟨w1, r, hs, hinv1⟩ := step_inv hinv hal
    rw [hs] at hrest
    obtain ⟨w', hr, hinv'⟩ := ih hinv1 hrest
    exact ⟨w', by simp only [run, hs]; exact hr, hinv'⟩

/-- **C10, clause "disjoint from every other live allocation"**: after any history
obeying the ownership discipline — any number of banks, any interleaving of acquire / allocate / intern /
store / close, any choice of the pool, any growth of `append` — no step has faulted, the invariant holds, and
live handles are pairwise disjoint. -/
theorem bank_inv (ops : List Op) (hd : Disciplined init ops) :
    ∃ w, run init ops = some w ∧ Inv w ∧ Separated w := by
  obtain ⟨w, hr, hinv⟩ := run_inv inv_init ops hd
  exact ⟨w, hr, hinv, separated_of_inv hinv⟩

/-- **C10, clause "memory obtained from a bank is zeroed"**: the cell `Alloc` returns reads zero — whatever was
stored there in an earlier life of the bank, also right after growth. -/
theorem alloc_zeroed {w w' : World} {b τ nc : Nat} {h : Handle} (hinv : Inv w) (hal : Allowed w (.alloc b τ nc))
    (hs : step w (.alloc b τ nc) = .ok w' (.ptr h)) : w'.read h = 0 := by
  obtain ⟨x, i, _, hs'⟩ := step_alloc hinv b τ nc hal
  rw [hs'] at hs; cases hs
  simp [World.read, allocWorld, upd2]

/-- the growth policy of the code (`max(16, 2*cap)`, buffer.go:185-188) meets the requirement `Allowed` puts on
`newCap`, so the theorems apply to it (and to any other policy that grows) -/
theorem alloc_go_allowed {w : World} {b τ : Nat} (hb : b < w.nbanks) (hp : (w.banks b).pooled = false) :
    Allowed w (.alloc b τ (goNewCap (findArena τ (w.banks b).arenas).cap)) :=
  ⟨hb, hp, fun _ => goNewCap_gt _⟩

theorem alloc_ok {w : World} {b τ nc : Nat} (hinv : Inv w) (hal : Allowed w (.alloc b τ nc)) :
    ∃ w' h, step w (.alloc b τ nc) = .ok w' (.ptr h) ∧ h.bank = b ∧ w'.Live h ∧ w'.issued = h :: w.issued := by
  obtain ⟨x, i, _, hs'⟩ := step_alloc hinv b τ nc hal
  refine ⟨_, _, hs', rfl, ?_, rfl⟩
  simp [World.Live, allocWorld, upd]

/-- **C10, clause "disjoint from every other live allocation"**, at the moment of allocation: the cell `Alloc`
returns is different from the cell of every pointer that is live at that moment (of any bank). -/
theorem alloc_disjoint {w w' : World} {b τ nc : Nat} {h : Handle} (hinv : Inv w) (hal : Allowed w (.alloc b τ nc))
    (hs : step w (.alloc b τ nc) = .ok w' (.ptr h)) :
    ∀ h0 ∈ w.issued, w.Live h0 → ¬ (h0.arr = h.arr ∧ h0.idx = h.idx) := by
  obtain ⟨x, i, hf, hs'⟩ := step_alloc hinv b τ nc hal
  rw [hs'] at hs; cases hs
  exact hf.cellNe

/-- **C10, main clause, one step**: any allowed operation other than a store through `h` itself leaves the cell
of a live pointer `h` unchanged — this covers allocation (with `typedmemclr`) in the same or another bank, growth,
`ToString`, `Close` of any bank and the pool handing a closed bank out again. -/
theorem step_frame {w w' : World} {r : Ret} {op : Op} (hinv : Inv w) (hal : Allowed w op)
    (hs : step w op = .ok w' r) {h : Handle} (hh : h ∈ w.issued) (hl : w.Live h)
    (hns : ∀ v, op ≠ .store h v) : w'.read h = w.read h :=
  (step_spec_of hinv hal hs).read h hh hl hns

theorem store_read {w w' : World} {r : Ret} {h : Handle} {v : Nat} (hs : step w (.store h v) = .ok w' r) :
    w'.read h = v := by
  simp only [step, storeStep] at hs; cases hs
  simp [World.read, upd2]

/-- **C10, `string_stable`** (one step): no operation changes the bytes of a live string. `ToString` on the
same bank appends strictly above every live string of the arena (append-only below `len`); when `append`
reallocates it writes only into the fresh array, the old array — which older strings still point into — is
left untouched. Strings are immutable for the user, so there is no exception for stores. -/
theorem string_stable {w w' : World} {r : Ret} {op : Op} (hinv : Inv w) (hal : Allowed w op)
    (hs : step w op = .ok w' r) {s : SHandle} (hin : s ∈ w.sissued) (hl : w.SLive s) : w'.sread s = w.sread s :=
  (step_spec_of hinv hal hs).sread s hin hl

theorem toString_content {w w' : World} {b g : Nat} {bytes : List Nat} {s : SHandle} (hinv : Inv w)
    (hs : step w (.toString b bytes g) = .ok w' (.str s)) :
    w'.sread s = bytes ∧ s.len = bytes.length ∧ s.bank = b ∧ w'.SLive s ∧ w'.sissued = s :: w.sissued := by
  obtain ⟨xo, nx, sd', m, hf, hs'⟩ := step_toString hinv b bytes g
  rw [hs'] at hs; cases hs
  refine ⟨?_, rfl, rfl, by simp [World.SLive, tsWorld, upd], rfl⟩
  cases xo with
  | none => rw [hf.empty rfl]; rfl
  | some x => exact hf.written x rfl

/-- **C10, `string_stable`, disjointness half**: the string `ToString` returns does not overlap any string that is
live at that moment. -/
theorem toString_disjoint {w w' : World} {b g : Nat} {bytes : List Nat} {s : SHandle} (hinv : Inv w)
    (hal : Allowed w (.toString b bytes g)) (hs : step w (.toString b bytes g) = .ok w' (.str s)) :
    ∀ s0 ∈ w.sissued, w.SLive s0 → ∀ x, s.arr = some x → s0.arr = some x →
      s.start + s.len ≤ s0.start ∨ s0.start + s0.len ≤ s.start := by
  obtain ⟨xo, nx, sd', m, hf, hs'⟩ := step_toString hinv b bytes g
  rw [hs'] at hs; cases hs
  exact hf.rangeDisj _

/-- **C10, `close_other_bank`**: an operation on another bank — allocating in it, interning into it, storing
through its pointers, closing it, the pool handing it out again — and the creation of new banks leave every
live pointer of bank `h.bank` live and its cell unchanged. -/
theorem close_other_bank {w w' : World} {r : Ret} {op : Op} (hinv : Inv w) (hal : Allowed w op)
    (hs : step w op = .ok w' r) {h : Handle} (hh : h ∈ w.issued) (hl : w.Live h)
    (hb : opBank op ≠ some h.bank) : w'.Live h ∧ w'.read h = w.read h := by
  have sp := step_spec_of hinv hal hs
  exact ⟨(sp.epoch_keep (hinv.t.t0 h hh) hb).trans hl, sp.read h hh hl fun v e => hb (by rw [e]; rfl)⟩

/-- the same for strings -/
theorem close_other_bank_str {w w' : World} {r : Ret} {op : Op} (hinv : Inv w) (hal : Allowed w op)
    (hs : step w op = .ok w' r) {s : SHandle} (hin : s ∈ w.sissued) (hl : w.SLive s)
    (hb : opBank op ≠ some s.bank) : w'.SLive s ∧ w'.sread s = w.sread s := by
  have sp := step_spec_of hinv hal hs
  exact ⟨(sp.epoch_keep (hinv.s.s0 s hin) hb).trans hl, sp.sread s hin hl⟩

/-- An observation `val` of something issued (`mem`) and alive (`live`) is the same at the end of a disciplined
history as at its start, if each step keeps `mem`, can only end `live`, and keeps `val` of what is alive unless
the operation is `bad`. -/
theorem run_stable {α : Type} {mem live : World → Prop} {val : World → α} {bad : Op → Prop}
    (hstep : ∀ {w op w'}, BankL.Inv w → StepSpec w op w' → mem w →
      mem w' ∧ (live w' → live w) ∧ (live w → ¬ bad op → val w' = val w))
    {w w' : World} (hinv : Inv w) (ops : List Op) (hd : Disciplined w ops) (hr : run w ops = some w')
    (hm : mem w) (hl' : live w') (hb : ∀ op ∈ ops, ¬ bad op) : live w ∧ val w' = val w := by
  induction ops generalizing w with
  | nil => cases hr; exact ⟨hl', rfl⟩
  | cons op ops ih =>
    obtain ⟨hal, hrest⟩ := hd
    obtain ⟨w1, r, hs, sp⟩ := step_spec hinv hal
    rw [hs] at hrest
    simp only [run, hs] at hr
    obtain ⟨hm1, hlive, hval⟩ := hstep hinv sp hm
    obtain ⟨hl1, hread⟩ := ih sp.inv hrest hr hm1 (fun o ho => hb o (List.mem_cons_of_mem _ ho))
    exact ⟨hlive hl1, hread.trans (hval (hlive hl1) (hb op List.mem_cons_self))⟩

/-- **C10, main clause** ("a record … stays unchanged for as long as its resource bank has not been closed —
regardless of how many further records or blocks are decoded, how internal buffers are reused, or which other
banks are closed and recycled"): take any reachable state `w`, any pointer `h` issued so far, and any
disciplined continuation `ops` of whatever length. If `h` is still live at the end (its bank was not closed)
and nobody stored through `h` itself, the cell of `h` holds at the end what it held in `w`. -/
theorem delivered_stable {w w' : World} (hinv : Inv w) (ops : List Op) (hd : Disciplined w ops)
    (hr : run w ops = some w') {h : Handle} (hh : h ∈ w.issued) (hl' : w'.Live h)
    (hns : ∀ v, Op.store h v ∉ ops) : w.Live h ∧ w'.read h = w.read h := by
  refine run_stable (mem := fun w => h ∈ w.issued) (live := fun w => w.Live h) (val := fun w => w.read h)
    (bad := fun op => ∃ v, op = .store h v) ?_ hinv ops hd hr hh hl' (fun op ho ⟨v, e⟩ => hns v (e ▸ ho))
  intro w op w' hinv sp hh
  exact ⟨sp.issued h hh, sp.epoch_back (hinv.t.t0 h hh) (hinv.t.t5 h hh),
    fun hl hnb => sp.read h hh hl fun v e => hnb ⟨v, e⟩⟩

/-- **C10, main clause for strings**: a string that is still live at the end of any disciplined continuation
denotes the same bytes as when it was delivered. -/
theorem delivered_string_stable {w w' : World} (hinv : Inv w) (ops : List Op) (hd : Disciplined w ops)
    (hr : run w ops = some w') {s : SHandle} (hin : s ∈ w.sissued) (hl' : w'.SLive s) :
    w.SLive s ∧ w'.sread s = w.sread s := by
  refine run_stable (mem := fun w => s ∈ w.sissued) (live := fun w => w.SLive s) (val := fun w => w.sread s)
    (bad := fun _ => False) ?_ hinv ops hd hr hin hl' (fun _ _ h => h)
  intro w op w' hinv sp hin
  exact ⟨sp.sissued s hin, sp.epoch_back (hinv.s.s0 s hin) (hinv.s.s5 s hin), fun hl _ => sp.sread s hin hl⟩

/-- the executable checker used by the driver is sound for `Disciplined` and agrees with `run` -/
theorem runChecked_sound {w w' : World} {ops : List Op} {rs : List Ret}
    (h : runChecked w ops = .ok (w', rs)) : Disciplined w ops ∧ run w ops = some w' := by
  induction ops generalizing w rs with
  | nil => simp only [runChecked] at h; cases h; exact ⟨trivial, rfl⟩
  | cons op ops ih =>
    simp only [runChecked] at h
    split at h
    · rename_i hal
      split at h
      · rename_i w1 r hs
        split at h
        · rename_i w2 rs2 hrc
          cases h
          obtain ⟨hd, hr⟩ := ih hrc
          exact ⟨⟨hal, by rw [hs]; exact hd⟩, by simp only [run, hs]; exact hr⟩
        · cases h
      · cases h
    · cases h

/-! ## non-vacuity: a concrete disciplined history with growth, close, reuse from the pool, two banks -/

def exOps : List Op :=
  [ .get none, .get none,                       -- banks 0 and 1
    .alloc 0 7 (goNewCap 0),                    -- cell 0 of typed array 0 (bank 0), capacity 16
    .store ⟨0, 0, 0, 0⟩ 99,
    .alloc 1 7 (goNewCap 0),                    -- bank 1 gets its own array
    .store ⟨1, 0, 1, 0⟩ 55,
    .toString 0 [1, 2, 3] 8,
    .toString 1 [9] 8,
    .toString 0 [4, 5, 6, 7, 8, 9] 32,          -- does not fit: fresh byte array, old one kept for "\x01\x02\x03"
    .close 0,
    .get (some 0),                              -- the pool hands bank 0 out again
    .alloc 0 7 (goNewCap 16) ]                  -- the very cell that held 99; it reads zero
  ++ List.replicate 16 (.alloc 0 7 (goNewCap 16)) -- cells 1..15 of the old array, then growth to 32: cell 16 of a new array
  ++ [ .toString 0 [42, 43, 44, 45] 32 ]        -- overwrites bytes 0..3 of the recycled string arena

/-- what the example looks at: the last three results, and at the end of the history the recycled cell, the
cell of bank 1 (never closed), the old string of bank 0 (dead: its bytes were overwritten) and the string of bank 1. -/
def exSummary : Except Nat (World × List Ret) → Option (List Ret × Nat × Nat × List Nat × List Nat)
  | .ok (w, rs) => some (rs.drop 26, w.read ⟨0, 1, 0, 0⟩, w.read ⟨1, 0, 1, 0⟩,
                         w.sread ⟨0, 0, some 2, 3, 6⟩, w.sread ⟨1, 0, some 1, 0, 1⟩)
  | .error _ => none

example : exSummary (runChecked init exOps) =
    some ([.ptr ⟨0, 1, 0, 15⟩, .ptr ⟨0, 1, 2, 16⟩, .str ⟨0, 1, some 2, 0, 4⟩], 0, 55, [45, 5, 6, 7, 8, 9], [9]) := by
  decide +kernel

/-- the hypotheses of the theorems are satisfiable by that history -/
example : ∃ w, Disciplined init exOps ∧ run init exOps = some w ∧ Inv w ∧
    w.Live ⟨1, 0, 1, 0⟩ ∧ ¬ w.Live ⟨0, 0, 0, 0⟩ ∧ w.Live ⟨0, 1, 0, 0⟩ := by
  have h : ∃ w rs, runChecked init exOps = .ok (w, rs) ∧ w.Live ⟨1, 0, 1, 0⟩ ∧ ¬ w.Live ⟨0, 0, 0, 0⟩ ∧ w.Live ⟨0, 1, 0, 0⟩ := by
    have hb : (match runChecked init exOps with
            | .ok (w, _) => decide (w.Live ⟨1, 0, 1, 0⟩ ∧ ¬ w.Live ⟨0, 0, 0, 0⟩ ∧ w.Live ⟨0, 1, 0, 0⟩)
            | .error _ => false) = true := by decide +kernel
    cases hrc : runChecked init exOps with
    | error i => rw [hrc] at hb; cases hb
    | ok p =>
      rw [hrc] at hb
      exact ⟨p.1, p.2, rfl, of_decide_eq_true hb⟩
  obtain ⟨w, rs, hrc, hl⟩ := h
  obtain ⟨hd, hr⟩ := runChecked_sound hrc
  obtain ⟨w', hr', hinv⟩ := run_inv inv_init _ hd
  rw [hr] at hr'; cases hr'
  exact ⟨w, hd, hr, hinv, hl⟩

/-- the discipline is not vacuous the other way either: using a bank after closing it is rejected -/
example : ¬ Disciplined init [.get none, .close 0, .alloc 0 7 16] := by
  intro h
  obtain ⟨_, h⟩ := h
  simp only [step, getStep] at h
  obtain ⟨_, h⟩ := h
  simp only [step, closeStep] at h
  obtain ⟨⟨_, h⟩, _⟩ := h
  simp [upd] at h

/-- **C10, `no_block_alias`**: for every tree of the hand-written provenance table `PCodec`, every piece of memory
reachable from a decoded value is either bank memory (covered by the theorems above) or a fresh heap object owned by the value alone; none is
the reused `compressed`/`uncompressed` block buffer of `ReadFile`, none is the caller's input. (The table
`PCodec.reach` is tied to the code by the file-retention runs of the harness: the input is overwritten and
the block buffers are reused by later blocks before the retained records are compared.) -/
theorem no_block_alias (c : PCodec) : ∀ p ∈ c.reach, p = .bank ∨ p = .freshHeap := by
  have hnew : ∀ c : PCodec, c.newProv = .bank ∨ c.newProv = .freshHeap := by
    intro c; cases c <;> simp [PCodec.newProv]
  induction c with
  | prim | fixed => intro p hp; cases hp
  | string | bytes => simp [PCodec.reach]
  | array c ih => simpa [PCodec.reach] using ih
  | map c ih => simpa [PCodec.reach, hnew c] using ih
  | pointer c ih => simpa [PCodec.reach, hnew c] using ih
  | seq a b iha ihb =>
    intro p hp
    rcases List.mem_append.mp hp with h | h
    · exact iha p h
    · exact ihb p h

theorem no_block_alias' (c : PCodec) : Prov.blockBuffer ∉ c.reach ∧ Prov.input ∉ c.reach := by
  constructor <;> intro h <;> rcases no_block_alias c _ h with h | h <;> cases h

/-- non-vacuity: a record with every kind of field reaches both kinds of memory -/
example : (PCodec.seq .string (.seq .bytes (.seq (.array (.array .string)) (.seq (.map .bytes) (.pointer .prim))))).reach =
    [.bank, .freshHeap, .freshHeap, .freshHeap, .bank, .freshHeap, .bank, .bank, .freshHeap, .bank] := by decide

end Avro.C10
