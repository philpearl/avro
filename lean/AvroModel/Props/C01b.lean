import AvroModel.Props.C01
import AvroModel.Lemmas.TypeCodec
import AvroModel.Lemmas.BuildOk
/-!
# C01 for a Go type: the codec is the one the library builds for the type

`C01.value_roundtrip_spec` is stated for a codec `c` with `fieldCodec N T false = some c`
and an Avro schema `s` with `CodecFor c s`. Here both are determined by the Go type `T` alone, the way
`NewEncoderFor[T]` / `ReadFile` into `T` determine them: the schema is the one `schemaForType`
generates for `T`, the codec the one `buildCodec` builds from that schema for `T` with the library's
registry, the Avro schema the one the generated schema denotes (`Lemmas/TypeCodec.lean`:
`built_is_fieldCodec`, `classify_frag`).
-/
namespace Avro.C01
open Avro

variable (env : Env)

/-- **For every Go type of the fragment the library generates a schema, builds a codec from it, and
the schema denotes an Avro schema** — with any stack budget above the nesting depth of the type and
any build / classification fuel from `T.bfuel + 3` on; the codec is `fieldCodec N T false`. -/
theorem typed_codec_exists (T : GoType) (hT : Frag T = true) (sf bf cf N : Nat)
    (hsf : T.depth < sf) (hbf : T.bfuel + 3 ≤ bf) (hcf : T.bfuel + 3 ≤ cf) (hN : 2 * T.depth + 2 ≤ N) :
    ∃ sch c a, schemaForType SReg.empty TEnv.empty sf [] T = .ok sch ∧
      buildCodec libReg bf sch (some T) false = .ok c ∧ classify cf sch = some a ∧
      fieldCodec N T false = some c ∧ CodecFor c a := by
  obtain ⟨c, hc⟩ := frag_field T hT N hN false
  obtain ⟨h1, h2⟩ := built_of_fieldCodec hc sf bf hsf hbf
  obtain ⟨a, ha⟩ := classify_frag T hT cf hcf
  exact ⟨_, c, a, h1, h2, ha, hc, (buildOkAt libReg (fun _ => rfl) bf).build _ _ _ _ h2 cf a ha⟩

/-- **C01 for a Go type, against the documented normalisations.** Let `T` be a Go type of the
fragment (`Frag`: bool, int16/32/64, float32/64, string, `[]byte`, slices, string-keyed maps,
pointers of any depth, `time.Time`, `null.*`, structs whose encoded fields have distinct names and
arbitrary `omitempty` tags), `sch` the schema the library generates for `T`, `c` the codec it builds
from `sch` for `T` (library registry, no user registrations), `a` the Avro schema `sch` denotes —
all three determined by `T` (`typed_codec_exists`). For a well-typed value `g : T` (`Typed`), if
writing `g` yields `bs` (and these are the specification's bytes for its datum `v`), then reading
`bs`, followed by anything, into a fresh destination succeeds, consumes exactly `bs`, and the value
`r` read back equals the value written up to the documented normalisations and the three recorded
deviations D27 / D30 / D32: `normSpec T r = normSpecD 7 T g`.
The remaining hypotheses are those of `value_roundtrip_spec` about budgets (`hm'`, `hk`, `hnf`), about
the written value being writable (`hw`, `ht`, `he`) and within the ranges of its type (`hok`). -/
theorem typed_roundtrip (h : EnvLaws env) (T : GoType) (hT : Frag T = true) (sf bf cf : Nat)
    (hsf : T.depth < sf) (hbf : T.bfuel + 3 ≤ bf)
    (sch : Schema) (c : Codec) (a : ASchema)
    (hs : schemaForType SReg.empty TEnv.empty sf [] T = .ok sch)
    (hb : buildCodec libReg bf sch (some T) false = .ok c)
    (ha : classify cf sch = some a)
    (M k n n' m m' : Nat) (g : GoVal) (bs bs' rest : Bytes) (v : Value)
    (hty : Typed M T g) (hm' : 2 * T.depth + 2 ≤ m') (hk : 2 * T.depth + 2 ≤ k)
    (hw : write env n c g = some bs) (ht : toAvro env (omits env) m c g = some v)
    (he : encode (canonPlan v) a v = some bs') (hok : RTOk env m' c g)
    (hnf : read env n' c (bs ++ rest) (Codec.zero env c) ≠ .fuel) :
    ∃ r, read env n' c (bs ++ rest) (Codec.zero env c) = .ok (r, rest) ∧
      normSpec k T false r = normSpecD 7 k T false g := by
  have hcf : CodecFor c a := (buildOkAt libReg (fun _ => rfl) bf).build _ _ _ _ hb cf a ha
  obtain ⟨_, c', h1, h2, hc'⟩ := built_is_fieldCodec T hT sf bf (2 * T.depth + 2) hsf hbf (Nat.le_refl _)
  rw [h1] at hs; cases hs
  rw [h2] at hb; cases hb
  exact value_roundtrip_spec env h T (2 * T.depth + 2) M k c a hcf n n' m m' g bs bs' rest v hc' hty hm' hk
    hw ht he hok hnf

/-! non-vacuity: `exType = struct{M map[string]int64; P *string; Q *[]int32}` is in the fragment, its
built codec is `exCodec` of C01.lean, the Avro schema its generated schema denotes is `exSchemaT` below (`exSchema`
of C01.lean with `int` ↦ `long`), and the example value satisfies every hypothesis -/

theorem frag_exType : Frag exType = true := by decide
example : Frag exType = true := frag_exType

/-- the Avro schema the generated schema of `exType` denotes (int32 ↦ long) -/
def exSchemaT : ASchema := .record ["M", "P", "Q"] [.map .long, .union [.null, .string], .array .long]

private def isFuel' {α : Type} : Outcome α → Bool | .fuel => true | _ => false
private theorem ne_fuel_of' {α : Type} {o : Outcome α} (h : isFuel' o = false) : o ≠ .fuel := by
  intro h'; subst h'; cases h

example : ∃ sch c a, schemaForType SReg.empty TEnv.empty 4000 [] exType = .ok sch ∧
    buildCodec libReg 200 sch (some exType) false = .ok c ∧ classify 64 sch = some a ∧
    fieldCodec 8 exType false = some c ∧ CodecFor c a :=
  typed_codec_exists exType frag_exType 4000 200 64 8 (by decide) (by decide) (by decide) (by decide)

example : ∃ r, read toyEnv 10 exCodec (exBytes ++ [255]) (Codec.zero toyEnv exCodec) = .ok (r, [255]) ∧
    normSpec 8 exType false r = normSpecD 7 8 exType false exVal :=
  have hb := built_of_fieldCodec exType_field 100 100 (by decide) (by decide)
  typed_roundtrip toyEnv toyEnv_laws exType frag_exType 100 100 64 (by decide) (by decide)
    (genSchema exType) exCodec exSchemaT hb.1 hb.2 (by rfl)
    5 8 10 10 10 8 exVal exBytes exBytes [255] exDatum
    exVal_typed (by decide) (by decide) exVal_write exVal_toAvro (by decide +kernel) (exVal_ok 4)
    exRead_ne_fuel

end Avro.C01
