import AvroModel.Lemmas.WriteOk
import AvroModel.Lemmas.ReadOk
import AvroModel.Lemmas.BuildOk
/-!
# C13 — Codecs built from caller-supplied schemas write valid data and invert

`write` produces exactly the specification's encoding (canonical plan) of the datum the Go value
denotes under the caller's schema — whichever position null occupies in a union, whatever the
declared numeric width or logical type — and `read` of those bytes delivers that datum back.
-/
namespace Avro.C13
open Avro

variable (env : Env)

/-- **Valid output.** For every codec the library can build for schema `s`, every Go value and every
budget: if the specification defines an encoding of the value's datum under `s` (i.e. the value is
within the schema type's range), the bytes written are exactly that encoding. -/
theorem write_valid (c : Codec) (s : ASchema) (hcf : CodecFor c s) (n m : Nat) (g : GoVal) (bs bs' : Bytes) (v : Value)
    (hw : write env n c g = some bs) (ht : toAvro env (omits env) m c g = some v)
    (he : encode (canonPlan v) s v = some bs') : bs' = bs :=
  (writeOkAt env n).write m c s g bs v bs' hcf hw ht he

/-- the same, starting from successful construction -/
theorem write_valid_built (reg : Reg) (hreg : ∀ id, reg.custom id = none) (nb fa n m : Nat)
    (sch : Schema) (T : Option GoType) (oe : Bool) (c : Codec) (s : ASchema) (g : GoVal) (bs bs' : Bytes) (v : Value)
    (hb : buildCodec reg nb sch T oe = .ok c) (hc : classify fa sch = some s)
    (hw : write env n c g = some bs) (ht : toAvro env (omits env) m c g = some v)
    (he : encode (canonPlan v) s v = some bs') : bs' = bs :=
  write_valid env c s ((buildOkAt reg hreg nb).build sch T oe c hb fa s hc) n m g bs bs' v hw ht he

/-- **Inverts.** Decoding what was written yields the value the written datum denotes, with nothing
left over (composition of write correctness and read correctness). -/
theorem write_then_read (c : Codec) (s : ASchema) (hcf : CodecFor c s) (n n' m m' : Nat) (g dst : GoVal) (bs bs' rest : Bytes) (v : Value)
    (hw : write env n c g = some bs) (ht : toAvro env (omits env) m c g = some v)
    (he : encode (canonPlan v) s v = some bs') :
    ReadSpec (read env n' c (bs ++ rest) dst) (ofAvro env m' c v dst) rest := by
  have := write_valid env c s hcf n m g bs bs' v hw ht he
  subst this
  exact read_spec env hcf he n' m' rest dst

/-- null second: a nil pointer under `["long","null"]` is written with selector 1 (`02`), not 0 -/
theorem null_second_selector (n : Nat) (o : Bool) :
    write env (n + 1) (.unionOne (.pointer (.int 64 o)) 0) (.ptr none) = some [2] := by
  rw [write_unionOne, if_pos (show omits env (.pointer (.int 64 o)) (.ptr none) = true from rfl)]
  simp [writeVarint, zigzag, putUvarint]

/-- null first: the value branch is selector 1, written as `02` followed by the value -/
theorem null_first_value (n : Nat) (o : Bool) :
    write env (n + 2) (.unionOne (.int 64 o) 1) (.int 3) = some ([2] ++ (if o then [6] else [6])) := by
  have hw : write env (n + 1) (.int 64 o) (.int 3) = some (writeVarint 3) := rfl
  rw [write_unionOne, if_neg (by cases o <;> nofun), hw]
  cases o <;> simp [writeVarint, zigzag, putUvarint]

/-- general (non-nullable) unions have no writer: `unionCodec.Write` panics by design; they are
outside this property's quantifier -/
theorem general_union_write_panics (n : Nat) (cs : List Codec) (g : GoVal) : write env n (.union cs) g = none := by
  cases n <;> rfl

/-- logical types in the model: with `t.unix * 10^9 + t.nsec` the nanosecond count, timestamp-millis
(`timeLong 1000000`) writes its floored quotient by `10^6`, timestamp-micros (`timeLong 1000`) by
`10^3`, neither wrapped; plain long (`timeLong 1`) writes the count wrapped to 64 bits -/
theorem timeLong_units (n : Nat) (t : TimeVal) :
    write env (n + 1) (.timeLong 1000000) (.time t) = some (writeVarint (Int.fdiv (t.unix * 1000000000 + t.nsec) 1000000)) ∧
    write env (n + 1) (.timeLong 1000) (.time t) = some (writeVarint (Int.fdiv (t.unix * 1000000000 + t.nsec) 1000)) ∧
    write env (n + 1) (.timeLong 1) (.time t) = some (writeVarint (wrap64 (t.unix * 1000000000 + t.nsec))) :=
  ⟨rfl, rfl, rfl⟩

end Avro.C13
