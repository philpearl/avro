import AvroModel.Bytes
/-!
Time: model of the Go packages `/repo/time` (parse.go, time.go) and of the `null.Time`
wrapper in `/repo/null/null.go`.  Core-only; the model driver links against this file.

* `parseTime` mirrors `time/parse.go: parseTime` index by index.  Every `in[k]`, `in[a:b]`,
  `remaining[0]`, `remaining[i+1:]` and the `_ = in[1]` / `_ = in[3]` of `atoi2`/`atoi4` is an
  `idx`/`slice`/`sliceFrom` that can yield `TOutcome.panic`; nothing is totalised.
  The function stops where the Go code calls `time.Date` / `getTimezone`: its result is the
  argument tuple (`TimeFields`).  `time.Date`, `time.FixedZone` stay trusted; their documented
  normalisation is `unixOf` below (used by the driver and by `DateCodec.Read`).
* `renderRFC3339`, `renderDate` are the RFC 3339 grammar written as a generator;
  `formatNano` is the model of `Time.Format(time.RFC3339Nano)`.
* `daysFromCivil`, `unixOf`: proleptic Gregorian calendar arithmetic.
* `dateDecode/dateEncodeDay`, `longDecode/longEncode`: the logical-type codecs of time/time.go
  as integer functions, Go's fixed-width wrap-around explicit (`wrapS`).
-/
namespace Avro.Time

open Avro

/-! ## Outcomes -/

/-- error classes of parseTime / StringCodec.Read (one per `fmt.Errorf` site) -/
inductive TErr where
  | short10 | dash | year | month | day | short20 | missingT | colon | hour | minute | second
  | fracShort | tzMissing | tzSign | tzLen | tzColon | tzHour | tzMin | trailing
  | varint | eof
  deriving DecidableEq, Repr

/-- Go run-time checks that can fire in parse.go -/
inductive TPanic where
  | index   -- index out of range
  | slice   -- slice bounds out of range
  deriving DecidableEq, Repr

inductive TOutcome (α : Type) where
  | ok (a : α)
  | err (e : TErr)
  | panic (k : TPanic)
  deriving Repr

namespace TOutcome
def bind {α β : Type} (x : TOutcome α) (f : α → TOutcome β) : TOutcome β :=
  match x with
  | ok a => f a
  | err e => err e
  | panic k => panic k

instance : Monad TOutcome where
  pure := ok
  bind := bind

def isPanic {α : Type} : TOutcome α → Bool
  | panic _ => true
  | _ => false
end TOutcome

/-- the tuple handed to `time.Date(y, time.Month(m), d, h, min, s, nsec, tz)`;
`offset` is the argument of `getTimezone` (0 for `time.UTC`) -/
structure TimeFields where
  year : Nat
  month : Nat
  day : Nat
  hour : Nat
  min : Nat
  sec : Nat
  nsec : Nat
  offset : Int
  deriving DecidableEq, Repr

/-! ## Go string primitives -/

/-- `s[k]` on a Go string: the byte (as a number) or an index panic -/
def idx (s : Bytes) (k : Nat) : TOutcome Nat :=
  match s[k]? with
  | some b => .ok b.toNat
  | none => .panic .index

/-- `s[a:b]` -/
def slice (s : Bytes) (a b : Nat) : TOutcome Bytes :=
  if a ≤ b ∧ b ≤ s.length then .ok ((s.take b).drop a) else .panic .slice

/-- `s[a:]` where `a` is a Go `int` (may be computed, may be negative) -/
def sliceFrom (s : Bytes) (a : Int) : TOutcome Bytes :=
  if 0 ≤ a ∧ a ≤ s.length then .ok (s.drop a.toNat) else .panic .slice

/-- `if cond { return error }` -/
def check (ok : Bool) (e : TErr) : TOutcome Unit := if ok then .ok () else .err e

/-- `x, err := atoiN(..); if err != nil { return wrapped error }` -/
def num (r : TOutcome (Option Nat)) (e : TErr) : TOutcome Nat :=
  r.bind fun o => match o with
    | some n => .ok n
    | none => .err e

/-- `int(b - '0')` for a byte `b`: the subtraction is done in uint8 (wraps), so the result is in
0..255 and the `< 0` tests of atoi2/atoi4 never fire -/
def subZero (b : Nat) : Nat := (b + 256 - 48) % 256

/-- parse.go:156 `atoi2` -/
def atoi2 (s : Bytes) : TOutcome (Option Nat) := do
  let _ ← idx s 1                 -- `_ = in[1]`
  let a ← idx s 0
  let b ← idx s 1
  let a := subZero a
  let b := subZero b
  if a > 9 ∨ b > 9 then pure none else pure (some (a * 10 + b))

/-- parse.go:165 `atoi4` -/
def atoi4 (s : Bytes) : TOutcome (Option Nat) := do
  let _ ← idx s 3                 -- `_ = in[3]`
  let a ← idx s 0
  let b ← idx s 1
  let c ← idx s 2
  let d ← idx s 3
  let a := subZero a
  let b := subZero b
  let c := subZero c
  let d := subZero d
  if a > 9 ∨ b > 9 ∨ c > 9 ∨ d > 9 then pure none
  else pure (some (a * 1000 + b * 100 + c * 10 + d))

/-! ## parseTime (parse.go:13) -/

/-- parse.go:14-33: length test, the two dashes, year, month, day -/
def parseDate (inp : Bytes) : TOutcome (Nat × Nat × Nat) := do
  check (!(inp.length < 10)) .short10
  let c4 ← idx inp 4
  check (c4 == 45) .dash          -- `in[4] != '-' ||` (short-circuit: in[7] only if in[4] is '-')
  let c7 ← idx inp 7
  check (c7 == 45) .dash
  let y ← num ((slice inp 0 4).bind atoi4) .year
  let m ← num ((slice inp 5 7).bind atoi2) .month
  let d ← num ((slice inp 8 10).bind atoi2) .day
  pure (y, m, d)

/-- parse.go:39-64: `T`, the two colons, hour, minute, second, `remaining := in[19:]` -/
def parseClock (inp : Bytes) : TOutcome (Nat × Nat × Nat × Bytes) := do
  check (!(inp.length < 20)) .short20
  let cT ← idx inp 10
  check (cT == 84) .missingT
  let c13 ← idx inp 13
  check (c13 == 58) .colon
  let c16 ← idx inp 16
  check (c16 == 58) .colon
  let h ← num ((slice inp 11 13).bind atoi2) .hour
  let mi ← num ((slice inp 14 16).bind atoi2) .minute
  let s ← num ((slice inp 17 19).bind atoi2) .second
  let rem ← sliceFrom inp 19
  pure (h, mi, s, rem)

/-- parse.go:77-88, the loop `for i, c = range remaining { … }` over the bytes not yet visited.
Arguments: the unvisited suffix, `pos` = byte index of its first byte, and the current values of
the variables `i`, `val`, `mult`.  Result: the values of `i`, `val`, `mult` after the loop.

Rune stepping: `range` decodes UTF-8, `i` is the byte index of the rune start.  Every byte visited
before the loop stops is an ASCII digit (one-byte rune), so the next rune always starts at `pos`;
a byte ≥ 0x80 at `pos` decodes to a rune ≥ 0x80 or to U+FFFD — not a digit — and the loop breaks
there with `i = pos - 1`, exactly like for any other non-digit byte.  When the range is exhausted
`i` keeps the index of the last rune (the variables are assigned, not redeclared). -/
def fracLoop : Bytes → Nat → Int → Nat → Nat → Int × Nat × Nat
  | [], _, i, val, mult => (i, val, mult)
  | c :: rest, pos, _, val, mult =>
    if 48 ≤ c.toNat ∧ c.toNat ≤ 57 then
      if mult > 1 then fracLoop rest (pos + 1) pos (val * 10 + (c.toNat - 48)) (mult / 10)
      else fracLoop rest (pos + 1) pos val mult
    else ((pos : Int) - 1, val, mult)

/-- parse.go:65-94: `c := remaining[0]`, optional fraction -/
def parseFrac (rem : Bytes) : TOutcome (Nat × Bytes) := do
  let c ← idx rem 0
  if c == 46 || c == 44 then
    let rem ← sliceFrom rem 1
    check (rem.length != 0) .fracShort
    let r := fracLoop rem 0 0 0 1000000000
    let rem ← sliceFrom rem (r.1 + 1)
    check (rem.length != 0) .tzMissing
    pure (r.2.1 * r.2.2, rem)
  else pure (0, rem)

/-- parse.go:96-128: zone designator; the result is the `getTimezone` argument (0 for UTC) and
what is left of the string -/
def parseZone (rem : Bytes) : TOutcome (Int × Bytes) := do
  let c ← idx rem 0
  let rem ← sliceFrom rem 1
  if c == 90 then pure (0, rem)
  else
    let sign : Int ← (if c == 43 then TOutcome.ok 1 else if c == 45 then TOutcome.ok (-1) else TOutcome.err .tzSign)
    check (!(rem.length < 5)) .tzLen
    let c2 ← idx rem 2
    check (c2 == 58) .tzColon
    let tzh ← num ((slice rem 0 2).bind atoi2) .tzHour
    let tzm ← num ((slice rem 3 5).bind atoi2) .tzMin
    let rem ← sliceFrom rem 5
    pure (sign * ((tzh * 60 * 60 + tzm * 60 : Nat) : Int), rem)

/-- parse.go:13 `parseTime` -/
def parseTime (inp : Bytes) : TOutcome TimeFields := do
  let ymd ← parseDate inp
  if inp.length == 10 then
    pure ⟨ymd.1, ymd.2.1, ymd.2.2, 0, 0, 0, 0, 0⟩
  else
    let clk ← parseClock inp
    let fr ← parseFrac clk.2.2.2
    let zn ← parseZone fr.2
    check (zn.2.length == 0) .trailing
    pure ⟨ymd.1, ymd.2.1, ymd.2.2, clk.1, clk.2.1, clk.2.2.1, fr.1, zn.1⟩

/-- time.go:97 `StringCodec.Read` (also `nullTimeCodec.Read`, null.go:232, which only sets
`Valid` first): varint length, `l == 0` leaves the destination untouched (`none`),
`ReadBuf.Next(int(l))` (buffer.go:77), then `parseTime`. -/
def stringCodecRead (bs : Bytes) : TOutcome (Option TimeFields) :=
  match readVarint bs with
  | .error _ => .err .varint
  | .ok (l, rest) =>
    if l = 0 then .ok none
    else if l < 0 ∨ l > rest.length then .err .eof
    else (parseTime (rest.take l.toNat)).bind fun f => .ok (some f)

/-! ## RFC 3339 as a generator -/

/-- ASCII digit of `n % 10` -/
def dig (n : Nat) : UInt8 := (48 + n % 10).toUInt8

def d2 (n : Nat) : Bytes := [dig (n / 10), dig n]
def d4 (n : Nat) : Bytes := [dig (n / 1000), dig (n / 100), dig (n / 10), dig n]

/-- `time-offset = "Z" / ("+" / "-") time-hour ":" time-minute` -/
inductive Zone where
  | z
  | off (neg : Bool) (hh mm : Nat)
  deriving DecidableEq, Repr

def Zone.seconds : Zone → Int
  | .z => 0
  | .off neg hh mm => (if neg then -1 else 1) * ((hh * 3600 + mm * 60 : Nat) : Int)

def renderZone : Zone → Bytes
  | .z => [90]
  | .off neg hh mm => (if neg then 45 else 43) :: (d2 hh ++ [58] ++ d2 mm)

/-- `full-date = date-fullyear "-" date-month "-" date-mday` -/
def renderDate (y m d : Nat) : Bytes := d4 y ++ [45] ++ d2 m ++ [45] ++ d2 d

/-- `time-secfrac = sep 1*DIGIT` (absent when there are no digits) -/
def renderFrac (frac : List (Fin 10)) (sep : UInt8) : Bytes :=
  match frac with
  | [] => []
  | _ => sep :: frac.map fun d => dig d.val

/-- `date-time = full-date "T" partial-time time-offset`.  Only the date/clock fields of `f` are
used; fraction digits, separator (`'.'` = 46 or `','` = 44) and zone are given separately. -/
def renderRFC3339 (f : TimeFields) (frac : List (Fin 10)) (sep : UInt8) (zn : Zone) : Bytes :=
  renderDate f.year f.month f.day ++ [84] ++ d2 f.hour ++ [58] ++ d2 f.min ++ [58] ++ d2 f.sec
    ++ renderFrac frac sep ++ renderZone zn

/-- value of a digit string read as a decimal number, continuing from `acc` -/
def digitsVal (acc : Nat) (ds : List (Fin 10)) : Nat := ds.foldl (fun a d => a * 10 + d.val) acc

/-- nanoseconds denoted by a fraction: the first nine digits, right-padded with zeros
(further digits are dropped, as `time.Parse` does) -/
def fracNanos (frac : List (Fin 10)) : Nat :=
  digitsVal 0 (frac.take 9 ++ List.replicate (9 - frac.length) 0)

/-! ## Calendar -/

def isLeap (y : Int) : Bool := y % 4 == 0 && (y % 100 != 0 || y % 400 == 0)

def daysInMonth (y : Int) (m : Nat) : Nat :=
  match m with
  | 2 => if isLeap y then 29 else 28
  | 4 => 30 | 6 => 30 | 9 => 30 | 11 => 30
  | _ => 31

/-- days of the months before month `m` (1-based) in year `y` -/
def daysBeforeMonth (y : Int) (m : Nat) : Nat :=
  ((List.range (m - 1)).map fun k => daysInMonth y (k + 1)).sum

/-- days from 0000-01-01 to `y`-01-01 (proleptic Gregorian; year 0 is a leap year) -/
def daysBeforeYear (y : Int) : Int := 365 * y + (y + 3) / 4 - (y + 99) / 100 + (y + 399) / 400

/-- days from 1970-01-01 to `y-m-d`, `1 ≤ m ≤ 12`; linear in `d` (any integer) -/
def daysFromCivil (y : Int) (m : Nat) (d : Int) : Int :=
  daysBeforeYear y + daysBeforeMonth y m + (d - 1) - 719528

structure ValidDate (y m d : Nat) : Prop where
  year : y ≤ 9999
  month : 1 ≤ m ∧ m ≤ 12
  day : 1 ≤ d ∧ d ≤ daysInMonth y m

/-- the field ranges `time.Parse` accepts (no leap second, hour ≤ 23) -/
structure ValidFields (f : TimeFields) : Prop where
  date : ValidDate f.year f.month f.day
  hour : f.hour ≤ 23
  min : f.min ≤ 59
  sec : f.sec ≤ 59

def Zone.Valid : Zone → Prop
  | .z => True
  | .off _ hh mm => hh ≤ 23 ∧ mm ≤ 59

/-- `time.Date(y, m, d, h, mi, s, _, FixedZone(off)).Unix()`: month normalised into the year,
everything else linear (the documented normalisation of out-of-range values) -/
def goDateUnix (y m d h mi s : Int) (off : Int) : Int :=
  let y' := y + (m - 1) / 12
  let m' := ((m - 1) % 12).toNat + 1
  (daysFromCivil y' m' d) * 86400 + h * 3600 + mi * 60 + s - off

/-- Unix seconds of the instant `time.Date` builds from the fields -/
def unixOf (f : TimeFields) : Int :=
  goDateUnix f.year f.month f.day f.hour f.min f.sec f.offset

/-! ## Format(time.RFC3339Nano) -/

/-- the nine fraction digits of a nanosecond count -/
def digits9 (n : Nat) : List (Fin 10) :=
  [⟨n / 100000000 % 10, Nat.mod_lt _ (by decide)⟩, ⟨n / 10000000 % 10, Nat.mod_lt _ (by decide)⟩,
   ⟨n / 1000000 % 10, Nat.mod_lt _ (by decide)⟩, ⟨n / 100000 % 10, Nat.mod_lt _ (by decide)⟩,
   ⟨n / 10000 % 10, Nat.mod_lt _ (by decide)⟩, ⟨n / 1000 % 10, Nat.mod_lt _ (by decide)⟩,
   ⟨n / 100 % 10, Nat.mod_lt _ (by decide)⟩, ⟨n / 10 % 10, Nat.mod_lt _ (by decide)⟩,
   ⟨n % 10, Nat.mod_lt _ (by decide)⟩]

/-- remove trailing zeros -/
def trimZeros : List (Fin 10) → List (Fin 10)
  | [] => []
  | d :: ds =>
    match trimZeros ds with
    | [] => if d = 0 then [] else [d]
    | t => d :: t

/-- zone designator of `Format` for layout `Z07:00`: `Z` iff the offset is 0, otherwise sign,
`|offset| / 3600` and `|offset| / 60 % 60` (seconds of the offset are not printed) -/
def zoneOfOffset (off : Int) : Zone :=
  if off = 0 then .z
  else .off (off < 0) (off.natAbs / 3600) (off.natAbs / 60 % 60)

/-- model of `t.Format(time.RFC3339Nano)` for a time whose civil fields in its own zone are `f`
(year 0..9999, |offset| < 100 h): `.999999999` prints the fraction without trailing zeros and
nothing when it is zero -/
def formatNano (f : TimeFields) : Bytes :=
  renderRFC3339 f (trimZeros (digits9 f.nsec)) 46 (zoneOfOffset f.offset)

/-! ## Logical-type codecs of time/time.go -/

/-- conversion to a signed Go integer of `w` bits (two's complement wrap-around) -/
def wrapS (w : Nat) (x : Int) : Int := (x + 2 ^ (w - 1)) % 2 ^ w - 2 ^ (w - 1)

/-- a `time.Time` as an absolute instant: Unix seconds and nanosecond within the second -/
structure Instant where
  sec : Int
  nsec : Int
  deriving DecidableEq, Repr

/-- `time.Unix(0, n)`: floor division into seconds and non-negative nanoseconds -/
def ofUnixNano (n : Int) : Instant := ⟨n / 1000000000, n % 1000000000⟩

def Instant.nanos (t : Instant) : Int := t.sec * 1000000000 + t.nsec

/-- time.go:61 `DateCodec.Read` after the int32 has been read:
`time.Date(1970, 1, 1+int(l), 0, 0, 0, 0, time.UTC)` -/
def dateDecode (l : Int) : Instant := ⟨goDateUnix 1970 1 (1 + l) 0 0 0 0, 0⟩

/-- `DateCodec.Read` on bytes: `Int32Codec.Read` then `dateDecode` -/
def dateRead (bs : Bytes) : Except IntErr (Instant × Bytes) :=
  match readInt 32 bs with
  | .ok (l, rest) => .ok (dateDecode l, rest)
  | .error e => .error e

/-- time.go:81 `DateCodec.Write`: `day := int32(secs / 86400); if secs % 86400 < 0 { day-- }`
with Go's truncated `/` and `%` and int32 wrap-around -/
def dateEncodeDay (t : Instant) : Int :=
  let day := wrapS 32 (Int.tdiv t.sec 86400)
  if Int.tmod t.sec 86400 < 0 then wrapS 32 (day - 1) else day

def dateWrite (t : Instant) : Bytes := writeInt 32 (dateEncodeDay t)

/-- time.go:151 `LongCodec.Read` after the int64 has been read: `time.Unix(0, l*c.mult)`,
the product wraps in int64 -/
def longDecode (mult : Int) (l : Int) : Instant := ofUnixNano (wrapS 64 (l * mult))

def longRead (mult : Int) (bs : Bytes) : Except IntErr (Instant × Bytes) :=
  match readInt 64 bs with
  | .ok (l, rest) => .ok (longDecode mult l, rest)
  | .error e => .error e

/-- time.go:171 `LongCodec.Write`: `switch c.mult { case 1: UnixNano; case 1e6: UnixMilli;
default: UnixMicro }`; the stdlib computes `sec*k + nsec/(1e9/k)` in int64 -/
def longEncode (mult : Int) (t : Instant) : Int :=
  if mult = 1 then wrapS 64 (t.sec * 1000000000 + t.nsec)
  else if mult = 1000000 then wrapS 64 (t.sec * 1000 + t.nsec / 1000000)
  else wrapS 64 (t.sec * 1000000 + t.nsec / 1000)

def longWrite (mult : Int) (t : Instant) : Bytes := writeInt 64 (longEncode mult t)

/-- resolutions of the three long interpretations (time.go:25 `buildTimeCodec`) -/
inductive Res where
  | ns   -- plain long: the library's nanosecond convention, mult 1
  | us   -- timestamp-micros, mult 1000
  | ms   -- timestamp-millis, mult 1000000
  deriving DecidableEq, Repr

def Res.mult : Res → Int
  | .ns => 1
  | .us => 1000
  | .ms => 1000000

/-- the instant `t` rounded down to a multiple of `m` nanoseconds -/
def floorNanos (m : Int) (t : Instant) : Int := t.nanos / m * m

end Avro.Time
