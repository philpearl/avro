import AvroModel.LockFactsTypes
/-! # Conc: threads × RW-mutexes × shared variables

A small-step interleaving semantics used by property C12.  What is modelled: sequentially consistent
interleaving of N threads, each a list of actions; `sync.RWMutex`/`sync.Mutex` as "one writer or many
readers"; plain shared variables holding a number; a per-thread log of the values read.  What is *not*
modelled (trusted / searched with the race detector instead): the Go memory model below lock
acquire/release, `sync.Pool` internals (its operations are `atomicOp`s), the scheduler's fairness
(a waiting writer blocking new readers only removes behaviours).

A *data race* is a state in which two different threads are both about to perform conflicting plain
accesses to the same variable (the happens-before-free formulation: nothing orders the two accesses).

Mirrors: `sync.RWMutex` as used in /repo/build.go:17-30,38-40, /repo/buildschema.go:10-41 and `sync.Mutex`
in /repo/time/parse.go:138-150. -/
namespace Avro.Conc

abbrev Tid := Nat

/-- Lock mode: shared (`RLock`) or exclusive (`Lock`). -/
inductive Mode where
  | sh | ex
  deriving DecidableEq, Repr

/-- One step of a thread. `M` names mutexes, `V` names shared plain variables. -/
inductive Act (M V : Type) where
  | acq (m : M) (mode : Mode)     -- mu.Lock() / mu.RLock()
  | rel (m : M)                   -- mu.Unlock() / mu.RUnlock()
  | rd (x : V)                    -- plain read of a shared variable
  | wr (x : V) (val : Nat)        -- plain write
  | atomicOp                      -- an operation of an atomic object (sync.Pool Get/Put, …)
  | localStep                     -- thread-private computation
  deriving DecidableEq, Repr

/-- State of one RW-mutex: the exclusive holder, the shared holders. -/
structure LockSt where
  writer : Option Tid
  readers : List Tid
  deriving Repr

def LockSt.free : LockSt := ⟨none, []⟩

/-- Global state. Threads are indexed by `Nat`; a thread that is not there has the empty program. -/
structure St (M V : Type) where
  prog : Tid → List (Act M V)
  locks : M → LockSt
  mem : V → Nat
  seen : Tid → List Nat

/-- Function update. -/
def upd {α β : Type} [DecidableEq α] (f : α → β) (a : α) (b : β) : α → β := fun x => if x = a then b else f x

@[simp] theorem upd_same {α β : Type} [DecidableEq α] (f : α → β) (a : α) (b : β) : upd f a b a = b := by simp [upd]
theorem upd_other {α β : Type} [DecidableEq α] {f : α → β} {a x : α} {b : β} (h : x ≠ a) : upd f a b x = f x := by simp [upd, h]

section Sem
variable {M V : Type} [DecidableEq M] [DecidableEq V]

/-- Thread `t` takes its next step. Acquire blocks (no rule) unless the mutex is available in the requested
mode; releasing a mutex one does not hold has no rule (Go: fatal "unlock of unlocked mutex"). -/
inductive Step : St M V → Tid → St M V → Prop
  | acqEx {σ : St M V} {t : Tid} {m : M} {rest} :
      σ.prog t = .acq m .ex :: rest → (σ.locks m).writer = none → (σ.locks m).readers = [] →
      Step σ t { σ with prog := upd σ.prog t rest, locks := upd σ.locks m ⟨some t, []⟩ }
  | acqSh {σ : St M V} {t : Tid} {m : M} {rest} :
      σ.prog t = .acq m .sh :: rest → (σ.locks m).writer = none →
      Step σ t { σ with prog := upd σ.prog t rest, locks := upd σ.locks m ⟨none, t :: (σ.locks m).readers⟩ }
  | relEx {σ : St M V} {t : Tid} {m : M} {rest} :
      σ.prog t = .rel m :: rest → (σ.locks m).writer = some t →
      Step σ t { σ with prog := upd σ.prog t rest, locks := upd σ.locks m ⟨none, (σ.locks m).readers⟩ }
  | relSh {σ : St M V} {t : Tid} {m : M} {rest} :
      σ.prog t = .rel m :: rest → (σ.locks m).writer ≠ some t → t ∈ (σ.locks m).readers →
      Step σ t { σ with prog := upd σ.prog t rest,
                        locks := upd σ.locks m ⟨(σ.locks m).writer, (σ.locks m).readers.erase t⟩ }
  | rd {σ : St M V} {t : Tid} {x : V} {rest} :
      σ.prog t = .rd x :: rest →
      Step σ t { σ with prog := upd σ.prog t rest, seen := upd σ.seen t (σ.mem x :: σ.seen t) }
  | wr {σ : St M V} {t : Tid} {x : V} {v : Nat} {rest} :
      σ.prog t = .wr x v :: rest →
      Step σ t { σ with prog := upd σ.prog t rest, mem := upd σ.mem x v }
  | atomicOp {σ : St M V} {t : Tid} {rest} :
      σ.prog t = .atomicOp :: rest → Step σ t { σ with prog := upd σ.prog t rest }
  | localStep {σ : St M V} {t : Tid} {rest} :
      σ.prog t = .localStep :: rest → Step σ t { σ with prog := upd σ.prog t rest }

/-- States reachable from `σ₀` by any interleaving. -/
inductive Reachable (σ₀ : St M V) : St M V → Prop
  | refl : Reachable σ₀ σ₀
  | step {σ σ' : St M V} {t : Tid} : Reachable σ₀ σ → Step σ t σ' → Reachable σ₀ σ'

/-- Initial state: no lock held, empty read logs. -/
def init (progs : Tid → List (Act M V)) (mem : V → Nat) : St M V :=
  { prog := progs, locks := fun _ => LockSt.free, mem := mem, seen := fun _ => [] }

/-- The mode in which thread `t` holds mutex `m`, if it does. -/
def holds (σ : St M V) (t : Tid) (m : M) : Option Mode :=
  if (σ.locks m).writer = some t then some .ex
  else if t ∈ (σ.locks m).readers then some .sh else none

/-- The action thread `t` is about to perform. -/
def next (σ : St M V) (t : Tid) : Option (Act M V) := (σ.prog t).head?

/-- Two plain accesses to the same variable, at least one a write. -/
def conflicts : Act M V → Act M V → Prop
  | .wr x _, .wr y _ => x = y
  | .wr x _, .rd y => x = y
  | .rd x, .wr y _ => x = y
  | _, _ => False

/-- A data race: two different threads are simultaneously about to perform conflicting accesses. -/
def Race (σ : St M V) : Prop :=
  ∃ t u a b, t ≠ u ∧ next σ t = some a ∧ next σ u = some b ∧ conflicts a b

/-- The lock discipline, as a property of a state. `L x` is the mutex guarding `x`; `none` means `x` is
read-only (no thread ever writes it). Every thread about to write `x` holds `L x` exclusively; every thread
about to read a guarded `x` holds `L x` in some mode. -/
def Disciplined (L : V → Option M) (σ : St M V) : Prop :=
  ∀ t a, next σ t = some a →
    (∀ x v, a = .wr x v → ∃ m, L x = some m ∧ holds σ t m = some .ex) ∧
    (∀ x, a = .rd x → ∀ m, L x = some m → holds σ t m ≠ none)

/-- RW-mutex consistency: an exclusive holder excludes all shared holders. -/
def LockOK (σ : St M V) : Prop :=
  ∀ m t, (σ.locks m).writer = some t → (σ.locks m).readers = []

/-! ## The static discipline of one thread program -/

/-- Effect of one action on the thread-local lock set `h` (which mutex is held in which mode), or `none` if
the action violates the discipline: acquiring a mutex already held (Go: self-deadlock), releasing one not
held, writing a variable without its mutex held exclusively (or a variable that has no mutex), reading a
guarded variable without its mutex. -/
def stepHeld (L : V → Option M) (h : M → Option Mode) : Act M V → Option (M → Option Mode)
  | .acq m mode => if h m = none then some (upd h m (some mode)) else none
  | .rel m => if h m = none then none else some (upd h m none)
  | .rd x => match L x with
    | none => some h
    | some m => if h m = none then none else some h
  | .wr x _ => match L x with
    | none => none
    | some m => if h m = some .ex then some h else none
  | .atomicOp => some h
  | .localStep => some h

/-- Run the static check over a whole thread program. -/
def run (L : V → Option M) (h : M → Option Mode) : List (Act M V) → Option (M → Option Mode)
  | [] => some h
  | a :: p => (stepHeld L h a).bind fun h' => run L h' p

/-- A thread program respects discipline `L` when started holding `h`. -/
def Checked (L : V → Option M) (h : M → Option Mode) (p : List (Act M V)) : Prop := (run L h p).isSome

/-- The invariant carried along every execution of checked programs. -/
structure Inv (L : V → Option M) (σ : St M V) : Prop where
  lockOK : LockOK σ
  nodup : ∀ m, (σ.locks m).readers.Nodup
  checked : ∀ t, Checked L (holds σ t) (σ.prog t)

end Sem

/-! ## From the regenerated facts to the discipline -/

/-- Package-level mutexes named by the facts. -/
def mutexes (f : LockFacts) : List String :=
  (f.vars.filter fun v => v.sync == "Mutex" || v.sync == "RWMutex").map (·.name)

/-- Accesses to `x` that can run concurrently with user goroutines (everything outside initialisation). -/
def liveAccesses (f : LockFacts) (x : String) : List Access :=
  f.accesses.filter fun a => a.var == x && !a.atInit

/-- Access `a` is performed with mutex `m` held: exclusively if it is a write, in any mode if it is a read. -/
def accessOK (m : String) (a : Access) : Bool :=
  a.held.any fun h => h.mutex == m && (h.excl || !a.write)

/-- The mutex guarding variable `x`: for a variable written after initialisation, the first package-level
mutex under which *every* live access happens (consistent lock set); `none` for variables never written
after initialisation (read-only). -/
def lockOf (f : LockFacts) (x : String) : Option String :=
  if (liveAccesses f x).any (·.write) then
    (mutexes f).find? fun m => (liveAccesses f x).all (accessOK m)
  else none

/-- Discipline for one variable. A sync object is used only through its methods (atomic operations).
A plain variable is either never written after initialisation, or has a guarding mutex. -/
def varOK (f : LockFacts) (v : PkgVar) : Bool :=
  if v.sync != "" then (liveAccesses f v.name).all (·.syncCall)
  else (liveAccesses f v.name).all (fun a => !a.syncCall) &&
       (!(liveAccesses f v.name).any (·.write) || (lockOf f v.name).isSome)

/-- Row well-formedness: the access names a known variable; its lock set names each mutex once. -/
def rowOK (f : LockFacts) (a : Access) : Bool :=
  f.vars.any (·.name == a.var) && decide (a.held.map (·.mutex)).Nodup

/-- **The discipline predicate over the regenerated facts.** Every write to a shared package-level variable
happens under that variable's mutex held exclusively; every read under it held shared or exclusively;
variables with no mutex are never written outside initialisation; sync objects are only used through their
methods. -/
def Guarded (f : LockFacts) : Bool :=
  f.vars.all (varOK f) && f.accesses.all (rowOK f)

/-- Access `a` is covered by some package-level mutex in the mode it needs. -/
def coveredBySome (f : LockFacts) (a : Access) : Bool := (mutexes f).any fun m => accessOK m a

/-- The rows that break the discipline (for reporting; `Guarded` is the authoritative predicate): misuse of a
sync object, or an access to a variable that is written after initialisation and has no consistent mutex —
then the accesses covered by no mutex are named (all of them if each is covered but by different mutexes). -/
def unguardedRows (f : LockFacts) : List Access :=
  f.accesses.filter fun a =>
    !a.atInit && (!rowOK f a ||
      f.vars.any fun v => v.name == a.var &&
        (if v.sync != "" then !a.syncCall
         else a.syncCall ||
           ((liveAccesses f a.var).any (·.write) && (lockOf f a.var).isNone &&
             (!coveredBySome f a || (liveAccesses f a.var).all (coveredBySome f)))))

def modeOf (h : HeldLock) : Mode := if h.excl then .ex else .sh

/-- `body` executed with the locks `hs` acquired in order around it and released in reverse order. -/
def bracket (hs : List HeldLock) (body : List (Act String String)) : List (Act String String) :=
  match hs with
  | [] => body
  | h :: hs => .acq h.mutex (modeOf h) :: (bracket hs body ++ [.rel h.mutex])

/-- The action of one fact row. -/
def accessAct (a : Access) (val : Nat) : Act String String :=
  if a.syncCall then .atomicOp else if a.write then .wr a.var val else .rd a.var

/-- Thread programs the facts describe: any sequence of library accesses, each performed under exactly the
lock set the extractor recorded for it (each access is its own critical section: the finest, hence most
permissive, splitting of the real critical sections), interleaved with thread-private steps. -/
inductive FromFacts (f : LockFacts) : List (Act String String) → Prop
  | nil : FromFacts f []
  | op (a : Access) (val : Nat) (rest : List (Act String String)) :
      a ∈ f.accesses → a.atInit = false → FromFacts f rest →
      FromFacts f (bracket a.held [accessAct a val] ++ rest)
  | localStep (rest : List (Act String String)) : FromFacts f rest → FromFacts f (.localStep :: rest)

/-! ## The registry as data: a map guarded by a lock -/

/-- The registries (`registry`, `schemaRegistry`, `tzMap`) as association lists; newest binding first. -/
def regInsert {K β : Type} (k : K) (v : β) (r : List (K × β)) : List (K × β) := (k, v) :: r

def regLookup {K β : Type} [DecidableEq K] (k : K) (r : List (K × β)) : Option β :=
  (r.find? fun e => e.1 = k).map (·.2)

end Avro.Conc
