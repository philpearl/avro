import AvroModel.Build
/-!
Model of schema generation (`buildschema.go`: SchemaForType, schemaForType, schemaForStruct,
schemaForArray, schemaForMap, nullableSchema, RegisterSchema) and of the schema registrations made by
`time.RegisterCodecs` (time/time.go:14) and `null.RegisterCodecs` (null/null.go:17).

Self-referential Go types are not finite trees: a named type that is being defined is referred to by
`GoType.ref name`, resolved through a type environment `TEnv`. Go's call stack is the `fuel`
argument: running out of it is the outcome `overflow` (a fatal stack overflow of the real program),
never hidden behind a default.
-/
namespace Avro

/-- outcome of a generation step: a result, an `error` return, or unbounded recursion -/
inductive Gen (α : Type) where
  | ok (a : α)
  | err
  | overflow
  deriving Repr

/-- named types that are referred to by `GoType.ref` -/
abbrev TEnv := String → Option GoType

def TEnv.empty : TEnv := fun _ => none

/-! ### type identity (`parent == typ` on `reflect.Type`) -/

mutual
/-- `reflect.Type` identity: two struct types are the same type when name, package path and fields
agree (for anonymous structs this is Go's structural identity, for named ones the name decides and
the fields agree anyway). -/
def GoType.beq : GoType → GoType → Bool
  | .bool, .bool => true
  | .int a, .int b => a == b
  | .uint a, .uint b => a == b
  | .float32, .float32 => true
  | .float64, .float64 => true
  | .complex, .complex => true
  | .string, .string => true
  | .slice a, .slice b => GoType.beq a b
  | .array n a, .array m b => n == m && GoType.beq a b
  | .map k v, .map k' v' => GoType.beq k k' && GoType.beq v v'
  | .ptr a, .ptr b => GoType.beq a b
  | .struct n p fs, .struct n' p' fs' => n == n' && p == p' && GoField.beqList fs fs'
  | .time, .time => true
  | .nullT k, .nullT k' => k == k'
  | .custom i u, .custom j u' => i == j && GoType.beq u u'
  | .iface, .iface => true
  | .chan, .chan => true
  | .func, .func => true
  | .unsafeptr, .unsafeptr => true
  | .ref n, .ref m => n == m
  | _, _ => false
def GoField.beqList : List GoField → List GoField → Bool
  | [], [] => true
  | .mk n e j b t :: fs, .mk n' e' j' b' t' :: fs' =>
    n == n' && e == e' && j == j' && b == b' && GoType.beq t t' && GoField.beqList fs fs'
  | _, _ => false
end

/-! ### the schema registry -/

/-- `nullableSchema` (buildschema.go:95, null/null.go:33) -/
def nullableSchema (s : Schema) : Schema := .mk "union" none [.prim "null", s]

/-- The schema registry (`schemaRegistry`, buildschema.go:12). The library's own registrations
(`time.RegisterCodecs`, `null.RegisterCodecs`) are always present — the harness, like every documented
use, calls both at start-up; user registrations `RegisterSchema(custom id, s)` form an association
list whose head is the most recent call. -/
structure SReg where
  custom : List (Nat × Schema)

def SReg.empty : SReg := ⟨[]⟩

/-- `RegisterSchema(typ, s)` (buildschema.go:18): `schemaRegistry[typ] = s` -/
def SReg.register (r : SReg) (id : Nat) (s : Schema) : SReg := ⟨(id, s) :: r.custom⟩

/-- the schema `null.RegisterCodecs` registers for each `null.*` type -/
def nullTSchema : NullKind → Schema
  | .int => nullableSchema (.prim "long")
  | .bool => nullableSchema (.prim "boolean")
  | .double | .float => nullableSchema (.prim "double")
  | .string => nullableSchema (.prim "string")
  | .time => nullableSchema (.prim "string")

def assocLookup (id : Nat) : List (Nat × Schema) → Option Schema
  | [] => none
  | (k, s) :: r => if k == id then some s else assocLookup id r

/-- `isInSchemaRegistry` (buildschema.go:38) -/
def sregLookup (r : SReg) : GoType → Option Schema
  | .time => some (nullableSchema (.prim "string"))
  | .nullT k => some (nullTSchema k)
  | .custom id _ => assocLookup id r.custom
  | _ => none

/-! ### schemaForType -/

/-- pointer case of schemaForType (buildschema.go:81): unions, arrays and maps stay as they are -/
def ptrWrap (u : Schema) : Schema :=
  if u.type == "union" || u.type == "array" || u.type == "map" then u else nullableSchema u

/-- `if omitEmpty(field) && s.Type != "union" { s = nullableSchema(s) }` (buildschema.go:119) -/
def omitWrap (oe : Bool) (s : Schema) : Schema :=
  if oe && s.type != "union" then nullableSchema s else s

/-- `namespaceReplacer.Replace(typ.PkgPath())` (buildschema.go:135) -/
def namespaceOf (pkg : String) : String :=
  String.ofList (pkg.toList.map fun c => if c == '/' then '.' else if c == '-' then '_' else c)

def recordSchema (name pkg : String) (fs : List SchemaField) : Schema :=
  .mk "record" (some (.mk "" "" name (namespaceOf pkg) fs Schema.zero Schema.zero 0 [])) []

def arraySchema (items : Schema) : Schema :=
  .mk "array" (some (.mk "" "" "" "" [] items Schema.zero 0 [])) []

def mapSchema (values : Schema) : Schema :=
  .mk "map" (some (.mk "" "" "" "" [] Schema.zero values 0 [])) []

/-- the kinds that are checked against and pushed on `parents` (buildschema.go:52) -/
def GoType.composite : GoType → Bool
  | .struct _ _ _ | .array _ _ | .slice _ | .map _ _ | .ptr _ => true
  | _ => false

/-- what `reflect` shows for a type expression: a back-reference is the named type itself -/
def resolve (env : TEnv) : GoType → GoType
  | .ref n => (env n).getD (.ref n)
  | t => t

/-- `elem.Kind() == reflect.Uint8` (buildschema.go:145) -/
def isByteKind (env : TEnv) (e : GoType) : Bool :=
  match (resolve env e).strip with
  | .uint 8 => true
  | _ => false

/-- `typ.Key().Kind() == reflect.String` (buildschema.go:165): named string types count -/
def isStringKind (env : TEnv) (k : GoType) : Bool :=
  match (resolve env k).strip with
  | .string => true
  | _ => false

/-- the field loop of `schemaForStruct` (buildschema.go:105), over the function that generates the
schema of a field type: fields named "-" are skipped, the first error ends the loop. -/
def genFields (rec : GoType → Gen Schema) : List GoField → Gen (List SchemaField)
  | [] => .ok []
  | f :: fs =>
    if nameForField f == "-" then genFields rec fs
    else
      match rec f.type with
      | .ok s =>
        match genFields rec fs with
        | .ok r => .ok (.mk (nameForField f) (omitWrap (omitEmptyTag f.jsonTag) s) :: r)
        | .err => .err
        | .overflow => .overflow
      | .err => .err
      | .overflow => .overflow

/-- the kind switch of schemaForType (buildschema.go:65) with `schemaForStruct` (:105),
`schemaForArray` (:143) and `schemaForMap` (:164) inlined; `rec` generates the schema of a component
type (with `parents` already extended), the last argument is the kind view of the type (`GoType.strip`). -/
def genKind (env : TEnv) (rec : GoType → Gen Schema) : GoType → Gen Schema
  | .bool => .ok (.prim "boolean")
  | .int _ => .ok (.prim "long")
  | .float32 | .float64 => .ok (.prim "double")
  | .string => .ok (.prim "string")
  | .struct name pkg fs =>
    match genFields rec fs with
    | .ok sfs => .ok (recordSchema name pkg sfs)
    | .err => .err
    | .overflow => .overflow
  | .array _ e | .slice e =>
    if isByteKind env e then .ok (.prim "bytes")
    else
      match rec e with
      | .ok s => .ok (arraySchema s)
      | .err => .err
      | .overflow => .overflow
  | .map k v =>
    -- `typ.Key().Kind() != reflect.String` (buildschema.go:165)
    if isStringKind env k then
      match rec v with
      | .ok s => .ok (mapSchema s)
      | .err => .err
      | .overflow => .overflow
    else .err
  | .ptr e =>
    match rec e with
    | .ok u => .ok (ptrWrap u)
    | .err => .err
    | .overflow => .overflow
  | _ => .err

/-- one call of `schemaForType(typ, parents...)` (buildschema.go:47) on an actual type: the schema
registry first, then the self-reference check and push for the composite kinds (:52), then the kind
switch. `rec` is the recursive call. -/
def genResolved (sreg : SReg) (env : TEnv) (rec : List GoType → GoType → Gen Schema)
    (ps : List GoType) (t : GoType) : Gen Schema :=
  match sregLookup sreg t with
  | some s => .ok s
  | none =>
    if t.strip.composite then
      if ps.any (GoType.beq t) then .err
      else genKind env (rec (ps ++ [t])) t.strip
    else genKind env (rec ps) t.strip

/-- a back-reference is not a Go step: it *is* the named type it refers to -/
def genStep (sreg : SReg) (env : TEnv) (rec : List GoType → GoType → Gen Schema)
    (ps : List GoType) (t : GoType) : Gen Schema :=
  match t with
  | .ref n =>
    match env n with
    | some t' => rec ps t'
    | none => .err
  | _ => genResolved sreg env rec ps t

/-- `schemaForType`: every Go call costs one unit of `fuel` (the stack) -/
def schemaForType (sreg : SReg) (env : TEnv) : Nat → List GoType → GoType → Gen Schema
  | 0, _, _ => .overflow
  | fuel + 1, ps, t => genStep sreg env (schemaForType sreg env fuel) ps t

/-- `SchemaForType(item)` (buildschema.go:26): `item` must be a struct or a pointer to a struct -/
def schemaForItem (sreg : SReg) (env : TEnv) (fuel : Nat) (t : GoType) : Gen Schema :=
  let t := match resolve env t with
    | .ptr e => resolve env e
    | t => t
  match t.strip with
  | .struct _ _ _ => schemaForType sreg env fuel [] t
  | .time | .nullT _ => schemaForType sreg env fuel [] t
  | _ => .err

/-! ### the codec registry side of a registration -/

/-- `Register(custom id, builder)` (build.go:23) for a builder that accepts the schemas `acc` -/
def Reg.register (r : Reg) (id : Nat) (acc : Schema → Bool) : Reg :=
  { r with custom := fun i => if i == id then some acc else r.custom i }

end Avro
