/-
Bytes: the primitive wire layer of philpearl/avro (buffer.go, int.go, float.go, bool.go).

Everything here is core-only so that the model driver links as an executable.
Go integers are modelled as `Int`/`Nat`; the places where 64-bit wrap-around is
observable are explicit (`wrap64`, `toU64`).
-/
namespace Avro

abbrev Bytes := List UInt8

/-- Error classes of `ReadBuf.uvarint` (buffer.go). -/
inductive VErr where
  | eof        -- io.EOF from ReadByte
  | overflow   -- errOverflow
  deriving DecidableEq, Repr

/-- `binary.AppendUvarint`: base-128, least significant group first. -/
def putUvarint (n : Nat) : Bytes :=
  if h : n < 128 then [n.toUInt8]
  else (n % 128 + 128).toUInt8 :: putUvarint (n / 128)
decreasing_by omega

/-- Zig-zag map of `binary.AppendVarint`: `ux := uint64(x) << 1; if x < 0 { ux = ^ux }`. -/
def zigzag (v : Int) : Nat :=
  if v ≥ 0 then (2 * v).toNat else (-2 * v - 1).toNat

/-- `int64(v>>1) ^ -int64(v&1)` of `ReadBuf.Varint`. -/
def unzig (n : Nat) : Int :=
  if n % 2 = 0 then (n / 2 : Nat) else -((n / 2 : Nat) : Int) - 1

/-- `WriteBuf.Varint` = `binary.AppendVarint`. -/
def writeVarint (v : Int) : Bytes := putUvarint (zigzag v)

/-- `ReadBuf.uvarint` (buffer.go:124): `i` is the byte index, `x` the accumulator.
The shift is `7*i`.  On a successful return the accumulator never exceeded
64 bits (lemma `readUvarint_ok`), so no wrap needs to be modelled; on the
error paths the (garbage) value is not part of the outcome. -/
def readUvarintAux : Nat → Nat → Bytes → Except VErr (Nat × Bytes)
  | _, _, [] => .error .eof
  | i, x, b :: rest =>
    if b.toNat < 128 then
      if i > 9 ∨ (i = 9 ∧ b.toNat > 1) then .error .overflow
      else .ok (x + b.toNat * 2 ^ (7 * i), rest)
    else readUvarintAux (i + 1) (x + (b.toNat % 128) * 2 ^ (7 * i)) rest

def readUvarint (bs : Bytes) : Except VErr (Nat × Bytes) := readUvarintAux 0 0 bs

/-- `ReadBuf.Varint`. -/
def readVarint (bs : Bytes) : Except VErr (Int × Bytes) :=
  match readUvarint bs with
  | .ok (n, rest) => .ok (unzig n, rest)
  | .error e => .error e

/-- Range of a signed Go integer of `w` bits. -/
def inRange (w : Nat) (v : Int) : Prop := -(2 : Int) ^ (w - 1) ≤ v ∧ v < (2 : Int) ^ (w - 1)

instance (w : Nat) (v : Int) : Decidable (inRange w v) := by unfold inRange; exact inferInstance

/-- Outcome of `IntCodec[T].Read` (int.go): the range test comes first, then the
varint error is returned.  `w` is `8 * unsafe.Sizeof(T(0))`. -/
inductive IntErr where
  | varint (e : VErr)
  | range
  deriving DecidableEq, Repr

def readInt (w : Nat) (bs : Bytes) : Except IntErr (Int × Bytes) :=
  match readVarint bs with
  | .ok (v, rest) => if inRange w v then .ok (v, rest) else .error .range
  | .error e => .error (.varint e)

def writeInt (_w : Nat) (v : Int) : Bytes := writeVarint v

/-- little-endian bytes of a `k`-byte unsigned quantity -/
def putLE : Nat → Nat → Bytes
  | 0, _ => []
  | k + 1, n => (n % 256).toUInt8 :: putLE k (n / 256)

def getLE : Bytes → Nat
  | [] => 0
  | b :: rest => b.toNat + 256 * getLE rest

/-- `fixedCodec.Read` / `ReadBuf.Next`: take exactly `k` bytes or fail with EOF. -/
def takeN (k : Nat) (bs : Bytes) : Option (Bytes × Bytes) :=
  if k ≤ bs.length then some (bs.take k, bs.drop k) else none

/-- float codecs (float.go): the value is its IEEE bit pattern; the codec copies 4 / 8 bytes. -/
def writeF32 (bits : Nat) : Bytes := putLE 4 bits
def writeF64 (bits : Nat) : Bytes := putLE 8 bits

def readFixedBits (k : Nat) (bs : Bytes) : Option (Nat × Bytes) :=
  match takeN k bs with
  | some (b, rest) => some (getLE b, rest)
  | none => none

def readF32 := readFixedBits 4
def readF64 := readFixedBits 8

/-- `BoolCodec` (bool.go) -/
def writeBool (b : Bool) : Bytes := [if b then 1 else 0]

def readBool : Bytes → Option (Bool × Bytes)
  | [] => none
  | b :: rest => some (b != 0, rest)

end Avro
