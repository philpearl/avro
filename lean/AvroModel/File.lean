import AvroModel.Codec
/-!
Model of the container reader of philpearl/avro: `file.go` — `ReadFile` (l.107), `readFileHeader`
(l.212), `readBytes` (l.258), `readN` (l.273), `FileHeader.schema` (l.296), `nullCompression` /
`deflate` / `snappyCodec` `decompress` (l.316, l.331, l.366) — as the code is *now* (after the repairs: a
header without `avro.codec` is read as uncompressed, inflate errors are returned, snappy blocks
shorter than four bytes and negative lengths are rejected, nothing is allocated from a declared length).

The byte source is the list of unread bytes behind the `Reader` (`io.Reader` + `io.ByteReader`,
in practice a `bufio.Reader`). `encoding/binary.ReadVarint` and `io.ReadFull` are modelled from
their sources (they differ from the library's own `ReadBuf.uvarint`: see `ioUvarintAux`).

External code is a parameter (`Ext`): compress/flate's inflater, `snappy.Decode`, `crc32.ChecksumIEEE`,
and JSON schema parsing + `Schema.Codec` (`build`, which yields the record decoder). The record
decoder stands for `typedmemclr(rtyp, p); codec.Read(br, p)` (file.go:191-192): it decodes one
record into a zeroed destination and returns the unread rest of the block buffer. The caller's
callback is a function of the global record index: `cb i = some e` means the callback returns the
error `e` when it is handed record number `i` (0-based over the whole file).
-/
namespace Avro.File
open Avro

/-! ### The byte source -/

/-- The errors `binary.ReadVarint` / `io.ReadFull` can return on an in-memory source. -/
inductive IoErr where
  | eof             -- io.EOF: nothing at all could be read
  | unexpectedEOF   -- io.ErrUnexpectedEOF: the source ended in the middle
  | overflow        -- "binary: varint overflows a 64-bit integer"
  deriving DecidableEq, Repr

/-- `binary.ReadUvarint` (encoding/binary/varint.go:128): `i` is the loop index, `x` the accumulator
(the shift is `7*i`). The loop runs for `i < MaxVarintLen64 = 10`; when it ends without a
terminating byte the result is `errOverflow` *without reading an eleventh byte*. `ReadByte`'s
`io.EOF` is passed on unchanged only for `i = 0`, otherwise it becomes `io.ErrUnexpectedEOF`. -/
def ioUvarintAux : Nat → Nat → Bytes → Except IoErr (Nat × Bytes)
  | i, _, [] => if i ≥ 10 then .error .overflow else if i = 0 then .error .eof else .error .unexpectedEOF
  | i, x, b :: rest =>
    if i ≥ 10 then .error .overflow
    else if b.toNat < 128 then
      if i = 9 ∧ b.toNat > 1 then .error .overflow
      else .ok (x + b.toNat * 2 ^ (7 * i), rest)
    else ioUvarintAux (i + 1) (x + (b.toNat % 128) * 2 ^ (7 * i)) rest

/-- `binary.ReadVarint` (varint.go:157): zig-zag decoding of `ReadUvarint`; the error is passed on. -/
def ioVarint (bs : Bytes) : Except IoErr (Int × Bytes) :=
  match ioUvarintAux 0 0 bs with
  | .ok (n, rest) => .ok (unzig n, rest)
  | .error e => .error e

/-- `io.ReadFull(r, buf)` with `len(buf) = n` (io.go:329 `ReadAtLeast`): success without reading for
`n = 0`; `io.EOF` if no byte was read; `io.ErrUnexpectedEOF` after a partial read. -/
def readFull (n : Nat) (bs : Bytes) : Except IoErr (Bytes × Bytes) :=
  if n = 0 then .ok ([], bs)
  else if bs.length = 0 then .error .eof
  else if bs.length < n then .error .unexpectedEOF
  else .ok (bs.take n, bs.drop n)

/-! ### Outcomes -/

/-- Which `return …err…` statement of file.go produced the error. -/
inductive ErrKind where
  | magicRead       -- l.216 "failed to read file magic"
  | magic           -- l.219 "file header Magic is not correct"
  | metaCount       -- l.227 "failed to read count of map block"
  | metaNegCount    -- l.233 "negative block size not supported in file header"
  | metaKey         -- l.239 "failed to read key for map" (incl. l.264 negative length)
  | metaVal         -- l.244 "failed to read value for map"
  | headerSync      -- l.252 "failed to read file sync"
  | unknownCodec    -- l.124 "compression codec %s not supported"
  | noSchema        -- l.299 "no schema found in file header"
  | badSchema       -- l.303 schema JSON does not parse / l.135 "failed to build codec"
  | count           -- l.168 "reading item count"
  | length          -- l.172 "reading data block length"
  | negLength       -- l.175 "negative data block length"
  | payload         -- l.179 "reading %d bytes of compressed data"
  | inflate         -- l.340 "inflating block" (under l.183 "decompress failed")
  | snappyShort     -- l.368 "snappy block too short to hold a checksum"
  | snappyDecode    -- l.376, l.383 "snappy decode failed"
  | crc             -- l.388 "snappy checksum mismatch"
  | record          -- l.193 "failed to read item %d in file"
  | syncRead        -- l.204 "failed reading block signature"
  | syncMismatch    -- l.207 "sync block does not match"
  deriving DecidableEq, Repr

/-- Go run-time panics that the statements of file.go could raise. -/
inductive PanicKind where
  | sliceBounds     -- compressed[:len(compressed)-4] with len < 4
  | codecPanic      -- the record codec panicked
  | codecStuck      -- the record codec stored through a pointer of the wrong shape
  | codecFuel       -- the record codec did not finish
  deriving DecidableEq, Repr

/-- Result of a step that reads from the source. -/
inductive Step (β : Type) where
  | ok (b : β)
  | err (k : ErrKind)
  | panic (k : PanicKind)
  | fuel
  deriving Repr

@[inline] def Step.bind {β γ : Type} (s : Step β) (f : β → Step γ) : Step γ :=
  match s with
  | .ok b => f b
  | .err k => .err k
  | .panic k => .panic k
  | .fuel => .fuel

instance : Monad Step where
  pure := .ok
  bind := Step.bind

/-- What `ReadFile` returned: `nil`, an error built by file.go, the callback's own error value
(returned as it is, file.go:197), a panic, or out of fuel (the model's loop bound was too small;
`fuel_enough` shows `length + 1` always suffices). -/
inductive Res (ε : Type) where
  | ok
  | err (k : ErrKind)
  | cb (e : ε)
  | panic (k : PanicKind)
  | fuel
  deriving Repr, DecidableEq

/-- Observable behaviour of `ReadFile`: the records handed to the callback, in order, and the result. -/
structure Out (α ε : Type) where
  delivered : List α
  res : Res ε
  deriving Repr, DecidableEq

/-! ### Header -/

/-- chunk size of `readN` (file.go:274) -/
def chunk : Nat := 2 ^ 20

/-- `readN(r, buf, n)` (file.go:273) for `n ≥ 0`: the bytes are read in chunks of at most 1 MiB with
`io.ReadFull`, into a buffer that grows with what has arrived (no allocation from the declared
length: each `make` is for at most `chunk` bytes, the re-slicing is guarded by the capacity test, so
no statement of the loop can panic). The first chunk that cannot be filled ends the loop with that
`ReadFull`'s error: `io.EOF` when the input ended exactly at a chunk boundary, `io.ErrUnexpectedEOF`
otherwise — both are errors for every caller. The partial buffer returned with an error is only
used for the error text. -/
def readN (n : Nat) (bs : Bytes) : Except IoErr (Bytes × Bytes) :=
  if n = 0 then .ok ([], bs)
  else
    match readFull (min n chunk) bs with
    | .error e => .error e
    | .ok (a, r) =>
      match readN (n - min n chunk) r with
      | .error e => .error e
      | .ok (b, r') => .ok (a ++ b, r')
termination_by n
decreasing_by
  have : 0 < chunk := by decide
  omega

/-- `readBytes` (file.go:258); `ek` is how the caller wraps the error. -/
def readBytes (ek : ErrKind) (bs : Bytes) : Step (Bytes × Bytes) :=
  match ioVarint bs with
  | .error _ => .err ek
  | .ok (l, r) =>
    if l < 0 then .err ek
    else
      match readN l.toNat r with
      | .ok (v, r') => .ok (v, r')
      | .error _ => .err ek

/-- `fh.Meta`: the Go map as an association list, newest entry first (so a later key wins). -/
abbrev Meta := List (Bytes × Bytes)

def metaGet : Meta → Bytes → Option Bytes
  | [], _ => none
  | (k', v) :: m, k => if k' = k then some v else metaGet m k

/-- the `for ; count > 0; count--` loop of `readFileHeader` (file.go:236) -/
def readEntries : Nat → Bytes → Meta → Step (Meta × Bytes)
  | 0, bs, m => .ok (m, bs)
  | n + 1, bs, m => do
    let (k, r1) ← readBytes .metaKey bs
    let (v, r2) ← readBytes .metaVal r1
    readEntries n r2 ((k, v) :: m)

/-- the outer `for` loop over map blocks of `readFileHeader` (file.go:224) -/
def readMeta : Nat → Bytes → Meta → Step (Meta × Bytes)
  | 0, _, _ => .fuel
  | fuel + 1, bs, m =>
    match ioVarint bs with
    | .error _ => .err .metaCount
    | .ok (c, r) =>
      if c = 0 then .ok (m, r)
      else if c < 0 then .err .metaNegCount
      else do
        let (m', r') ← readEntries c.toNat r m
        readMeta fuel r' m'

structure Header where
  «meta» : Meta
  sync : Bytes
  deriving Repr

/-- `FileMagic` -/
def magic : Bytes := [0x4F, 0x62, 0x6A, 0x01]

/-- `readFileHeader` (file.go:212) -/
def readFileHeader (fuel : Nat) (bs : Bytes) : Step (Header × Bytes) :=
  match readFull 4 bs with
  | .error _ => .err .magicRead
  | .ok (m, r) =>
    if m ≠ magic then .err .magic
    else do
      let (mt, r') ← readMeta fuel r []
      match readFull 16 r' with
      | .error _ => .err .headerSync
      | .ok (s, r'') => pure ({ «meta» := mt, sync := s }, r'')

/-- "avro.codec" -/
def kCodec : Bytes := [0x61, 0x76, 0x72, 0x6F, 0x2E, 0x63, 0x6F, 0x64, 0x65, 0x63]
/-- "avro.schema" -/
def kSchema : Bytes := [0x61, 0x76, 0x72, 0x6F, 0x2E, 0x73, 0x63, 0x68, 0x65, 0x6D, 0x61]
/-- "null" -/
def vNull : Bytes := [0x6E, 0x75, 0x6C, 0x6C]
/-- "deflate" -/
def vDeflate : Bytes := [0x64, 0x65, 0x66, 0x6C, 0x61, 0x74, 0x65]
/-- "snappy" -/
def vSnappy : Bytes := [0x73, 0x6E, 0x61, 0x70, 0x70, 0x79]

inductive CodecSel where
  | null | deflate | snappy
  deriving DecidableEq, Repr

/-- codec selection of `ReadFile` (file.go:114-126): no entry means uncompressed -/
def selectCodec (m : Meta) : Option CodecSel :=
  match metaGet m kCodec with
  | none => some .null
  | some v =>
    if v = vNull then some .null
    else if v = vDeflate then some .deflate
    else if v = vSnappy then some .snappy
    else none

/-! ### Decompression -/

/-- The record decoder obtained from the header's schema and the caller's type. -/
structure RecCodec (α : Type) where
  decode : Bytes → Outcome (α × Bytes)

/-- External code. -/
structure Ext (α : Type) where
  /-- `flate.NewReader` + `ReadFrom`: `none` when the inflater reports an error -/
  inflate : Bytes → Option Bytes
  /-- `snappy.Decode` -/
  unsnappy : Bytes → Option Bytes
  /-- `crc32.ChecksumIEEE` -/
  crc : Bytes → Nat
  /-- `json.Unmarshal` of the schema followed by `Schema.Codec(out)` -/
  build : Bytes → Option (RecCodec α)

/-- `binary.BigEndian.Uint32` -/
def beU32 (bs : Bytes) : Nat := bs.foldl (fun acc b => acc * 256 + b.toNat) 0

/-- `decompress` of the three `compressionCodec`s (file.go:316, 331, 366). The slice expressions
`compressed[:len(compressed)-4]` / `compressed[len(compressed)-4:]` panic for `len < 4`; the guard
before them makes that unreachable (`decompress_no_panic`). -/
def decompress {α : Type} (X : Ext α) : CodecSel → Bytes → Step Bytes
  | .null, c => .ok c
  | .deflate, c =>
    match X.inflate c with
    | some d => .ok d
    | none => .err .inflate
  | .snappy, c =>
    if c.length < 4 then .err .snappyShort
    else if 4 ≤ c.length then
      match X.unsnappy (c.take (c.length - 4)) with
      | none => .err .snappyDecode
      | some d => if X.crc d ≠ beU32 (c.drop (c.length - 4)) then .err .crc else .ok d
    else .panic .sliceBounds

/-! ### The block loop -/

section
variable {α ε : Type}

/-- The record loop `for i := int64(0); i < count; i++` (file.go:188-199). `idx` is the number of
callbacks made before. Returns the records handed to the callback and, if the loop was left by a
`return`, the result. A record is handed to the callback *before* its error is looked at, so the
record on which the callback fails counts as delivered. -/
def deliver (decode : Bytes → Outcome (α × Bytes)) (cb : Nat → Option ε) :
    Nat → Bytes → Nat → List α × Option (Res ε)
  | 0, _, _ => ([], none)
  | n + 1, buf, idx =>
    match decode buf with
    | .ok (v, rest) =>
      match cb idx with
      | some e => ([v], some (.cb e))
      | none => (v :: (deliver decode cb n rest (idx + 1)).1, (deliver decode cb n rest (idx + 1)).2)
    | .err => ([], some (.err .record))
    | .panic => ([], some (.panic .codecPanic))
    | .stuck => ([], some (.panic .codecStuck))
    | .fuel => ([], some (.panic .codecFuel))

/-- What the block loop needs to know once the header has been digested. -/
structure Cfg (α ε : Type) where
  decomp : Bytes → Step Bytes
  decode : Bytes → Outcome (α × Bytes)
  sync : Bytes
  cb : Nat → Option ε

/-- First half of one iteration of the block loop (file.go:163-180): the record count, the payload
length, its guard, the payload (`readN`). `ok none` is the clean end of the file (`io.EOF` from the
count varint: `ReadFile` returns nil); `ok (some (count, compressed, rest))` otherwise. -/
def blockHead (bs : Bytes) : Step (Option (Int × Bytes × Bytes)) :=
  match ioVarint bs with
  | .error .eof => .ok none
  | .error _ => .err .count
  | .ok (count, r1) =>
    match ioVarint r1 with
    | .error _ => .err .length
    | .ok (len, r2) =>
      if len < 0 then .err .negLength
      else
        match readN len.toNat r2 with
        | .error _ => .err .payload
        | .ok (comp, r3) => .ok (some (count, comp, r3))

/-- Second half of one iteration (file.go:181-208): decompress, hand `count` records to the
callback, then read and compare the sync marker; `next` is the rest of the loop. A negative `count`
runs the record loop zero times (`count.toNat = 0`); what is left of the block buffer after `count`
records is dropped by the next `br.Reset`; the sync marker is compared only after the block's
records were delivered. -/
def blockTail (cfg : Cfg α ε) (next : Bytes → Nat → Out α ε) (count : Int) (comp r3 : Bytes) (idx : Nat) : Out α ε :=
  match cfg.decomp comp with
  | .err k => ⟨[], .err k⟩
  | .panic k => ⟨[], .panic k⟩
  | .fuel => ⟨[], .fuel⟩
  | .ok data =>
    match deliver cfg.decode cfg.cb count.toNat data idx with
    | (ds, some res) => ⟨ds, res⟩
    | (ds, none) =>
      match readFull 16 r3 with
      | .error _ => ⟨ds, .err .syncRead⟩
      | .ok (sig, r4) =>
        if sig ≠ cfg.sync then ⟨ds, .err .syncMismatch⟩
        else ⟨ds ++ (next r4 (idx + ds.length)).delivered, (next r4 (idx + ds.length)).res⟩

/-- The block loop of `ReadFile` (file.go:162-209); `idx` is the number of callbacks made so far. -/
def readBlocks (cfg : Cfg α ε) : Nat → Bytes → Nat → Out α ε
  | 0, _, _ => ⟨[], .fuel⟩
  | fuel + 1, bs, idx =>
    match blockHead bs with
    | .err k => ⟨[], .err k⟩
    | .panic k => ⟨[], .panic k⟩
    | .fuel => ⟨[], .fuel⟩
    | .ok none => ⟨[], .ok⟩
    | .ok (some (count, comp, r3)) => blockTail cfg (readBlocks cfg fuel) count comp r3 idx

/-- `ReadFile` (file.go:107): header, codec selection, schema lookup, codec construction, block loop. -/
def readFile (X : Ext α) (fuel : Nat) (cb : Nat → Option ε) (bs : Bytes) : Out α ε :=
  match readFileHeader fuel bs with
  | .err k => ⟨[], .err k⟩
  | .panic k => ⟨[], .panic k⟩
  | .fuel => ⟨[], .fuel⟩
  | .ok (h, rest) =>
    match selectCodec h.meta with
    | none => ⟨[], .err .unknownCodec⟩
    | some sel =>
      match metaGet h.meta kSchema with
      | none => ⟨[], .err .noSchema⟩
      | some js =>
        match X.build js with
        | none => ⟨[], .err .badSchema⟩
        | some rc =>
          readBlocks { decomp := decompress X sel, decode := rc.decode, sync := h.sync, cb := cb } fuel rest 0

end

end Avro.File
