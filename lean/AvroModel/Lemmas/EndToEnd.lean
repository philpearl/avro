import AvroModel.Props.C09
import AvroModel.Lemmas.File
/-!
# Composition of the encoder model with the container reader model

`C09.refines` says what an `Encoder` call history writes: the header followed by the frames of the
reference partition of the records. `File.readFile_valid` (of which `C07.delivers` is the case of a
callback that never fails) says what `ReadFile` does with a header followed by frames of good blocks.
This file shows that the first kind of byte string *is* of the second kind, so that the two compose
into a statement about write-then-read with no intermediate hypothesis about the file's bytes.
-/
namespace Avro.EndToEnd
open Avro Avro.File

variable {α ε : Type}

/-- the block (in the reader's vocabulary) made of the record encodings `blk`, decoded by `dec` -/
def blkOf (cfg : EncCfg) (dec : Bytes → α) (blk : List Bytes) : Blk α :=
  { recs := blk.map (fun r => (dec r, r)), junk := [], payload := cfg.compress blk.flatten }

theorem blkOf_eq (cfg : EncCfg) (dec : Bytes → α) (blk : List Bytes) :
    blkOf cfg dec blk = blkOfRecs cfg.compress (blk.map fun r => (dec r, r)) := by
  simp [blkOf, blkOfRecs, List.map_map, Function.comp_def]

theorem map_blkOf (cfg : EncCfg) (dec : Bytes → α) (part : List (List Bytes)) :
    part.map (blkOf cfg dec) = (part.map (·.map fun r => (dec r, r))).map (blkOfRecs cfg.compress) := by
  rw [List.map_map]; exact List.map_congr_left fun blk _ => blkOf_eq cfg dec blk

theorem frame_eq (cfg : EncCfg) (dec : Bytes → α) (blk : List Bytes) :
    Avro.frame cfg blk = File.frame cfg.sync (blkOf cfg dec blk) := by
  simp [Avro.frame, blockChunks, File.frame, frameHead, blkOf]

theorem frames_eq (cfg : EncCfg) (dec : Bytes → α) (part : List (List Bytes)) :
    (part.map (Avro.frame cfg)).flatten = body cfg.sync (part.map (blkOf cfg dec)) := by
  simp only [body, List.map_map]
  congr 1
  apply List.map_congr_left
  intro blk _
  exact frame_eq cfg dec blk

theorem allVals_blkOf (cfg : EncCfg) (dec : Bytes → α) (part : List (List Bytes)) :
    allVals (part.map (blkOf cfg dec)) = part.flatten.map dec := by
  rw [map_blkOf, allVals_blkOfRecs, ← List.map_flatten, List.map_map]; rfl

theorem encodings_append_flush (ops : List EncOp) : encodings (ops ++ [.flush]) = encodings ops := by
  induction ops with
  | nil => simp [encodings]
  | cons op ops ih => cases op <;> simp [encodings, ih]

theorem length_le_flatten {β : Type} : ∀ (part : List (List β)), (∀ b ∈ part, b ≠ []) → part.length ≤ part.flatten.length
  | [], _ => by simp
  | b :: bs, h => by
    obtain ⟨hb, h'⟩ := List.forall_mem_cons.mp h
    have := length_le_flatten bs h'
    have : 0 < b.length := List.length_pos_iff.mpr hb
    simp only [List.length_cons, List.flatten_cons, List.length_append]
    omega

theorem part_flatten_prefix (bs : Nat) (ops : List EncOp) :
    (specPart bs ops []).1.flatten <+: encodings ops := by
  have := C09.spec_preserves bs ops []
  simp only [List.nil_append] at this
  exact ⟨_, this⟩

/-- **What the writer wrote is a valid file** (in the reader's vocabulary), for *every* history
`ops`, ended by a `Flush` or not: the header followed by the frames of the blocks of the reference
partition `(specPart cfg.blockSize ops []).1` — records still pending at the end of `ops` are simply
not in the file. -/
theorem written_valid (cfg : EncCfg) (ops : List EncOp)
    {X : Ext α} {fuel : Nat} {H : Header} {sel : CodecSel} {rc : RecCodec α}
    (hh : ValidHeader X fuel cfg.header H sel rc)
    (hcomp : ∀ x, decompress X sel (cfg.compress x) = .ok x)
    (hsmall : ∀ blk ∈ (specPart cfg.blockSize ops []).1, (cfg.compress blk.flatten).length ≤ maxLen)
    (dec : Bytes → α) (hdec : ∀ r ∈ encodings ops, ∀ rest, rc.decode (r ++ rest) = .ok (dec r, rest))
    (hn : (encodings ops).length < fuel) (hn63 : (encodings ops).length < 2 ^ 63) :
    ValidFile X fuel cfg.header H sel rc ((specPart cfg.blockSize ops []).1.map (blkOf cfg dec)) := by
  generalize hpart : (specPart cfg.blockSize ops []).1 = part at hsmall
  have hpre : part.flatten <+: encodings ops := by
    rw [← hpart]; exact part_flatten_prefix _ _
  have hfl : part.flatten.length ≤ (encodings ops).length := hpre.length_le
  have hne : ∀ b ∈ part, b ≠ [] := by
    rw [← hpart]; exact C09.spec_nonempty _ _ _
  have hlen : part.length ≤ (encodings ops).length :=
    Nat.le_trans (length_le_flatten part hne) hfl
  have hmem : ∀ b ∈ part, ∀ r ∈ b, r ∈ encodings ops := by
    intro b hb r hr
    exact hpre.subset (List.mem_flatten.mpr ⟨b, hb, hr⟩)
  have hblen : ∀ b ∈ part, b.length ≤ (encodings ops).length := by
    intro b hb
    exact Nat.le_trans (List.sublist_flatten_of_mem hb).length_le hfl
  rw [map_blkOf]
  refine validFile_of_parts hh cfg.compress hcomp _ ?_ ?_ ?_ (by rw [List.length_map]; omega)
  · intro blk hblk ve hve rest
    obtain ⟨b, hb, rfl⟩ := List.mem_map.mp hblk
    obtain ⟨r, hr, rfl⟩ := List.mem_map.mp hve
    exact hdec r (hmem b hb r hr) rest
  · intro blk hblk
    obtain ⟨b, hb, rfl⟩ := List.mem_map.mp hblk
    simpa [List.map_map, Function.comp_def] using hsmall b hb
  · intro blk hblk
    obtain ⟨b, hb, rfl⟩ := List.mem_map.mp hblk
    have := hblen b hb
    rw [List.length_map]; omega

theorem written_bytes (cfg : EncCfg) (dec : Bytes → α) (ops : List EncOp) :
    (encRun cfg {} ops).2.1.accepted = cfg.header ++ body cfg.sync ((specPart cfg.blockSize ops []).1.map (blkOf cfg dec)) := by
  obtain ⟨s', w', hrun, hacc, _, _⟩ := C09.refines cfg ops
  rw [hrun, hacc, frames_eq cfg dec]

/-- **Write then read, for any history and any callback.** `dec r` is the value the decoder yields for
the encoding `r`; what the writer produced is read as exactly the records of the blocks it emitted,
handed to the callback in order (records still pending at the end of `ops` are not in the file). -/
theorem written_read (cfg : EncCfg) (ops : List EncOp)
    {X : Ext α} {fuel : Nat} {H : Header} {sel : CodecSel} {rc : RecCodec α}
    (hh : ValidHeader X fuel cfg.header H sel rc) (hs : H.sync = cfg.sync)
    (hcomp : ∀ x, decompress X sel (cfg.compress x) = .ok x)
    (hsmall : ∀ blk ∈ (specPart cfg.blockSize ops []).1, (cfg.compress blk.flatten).length ≤ maxLen)
    (dec : Bytes → α) (hdec : ∀ r ∈ encodings ops, ∀ rest, rc.decode (r ++ rest) = .ok (dec r, rest))
    (hn : (encodings ops).length < fuel) (hn63 : (encodings ops).length < 2 ^ 63) (cb : Nat → Option ε) :
    readFile X fuel cb (encRun cfg {} ops).2.1.accepted =
      thenOut (handOver cb ((specPart cfg.blockSize ops []).1.flatten.map dec) 0) (fun _ => ⟨[], .ok⟩) := by
  rw [written_bytes cfg dec ops, ← hs, readFile_valid (written_valid cfg ops hh hcomp hsmall dec hdec hn hn63),
    allVals_blkOf]

/-- after a final `Flush` the blocks hold every record of the history -/
theorem written_read_flushed (cfg : EncCfg) (ops : List EncOp)
    {X : Ext α} {fuel : Nat} {H : Header} {sel : CodecSel} {rc : RecCodec α}
    (hh : ValidHeader X fuel cfg.header H sel rc) (hs : H.sync = cfg.sync)
    (hcomp : ∀ x, decompress X sel (cfg.compress x) = .ok x)
    (hsmall : ∀ blk ∈ (specPart cfg.blockSize (ops ++ [.flush]) []).1, (cfg.compress blk.flatten).length ≤ maxLen)
    (dec : Bytes → α) (hdec : ∀ r ∈ encodings ops, ∀ rest, rc.decode (r ++ rest) = .ok (dec r, rest))
    (hn : (encodings ops).length < fuel) (hn63 : (encodings ops).length < 2 ^ 63) (cb : Nat → Option ε) :
    readFile X fuel cb (encRun cfg {} (ops ++ [.flush])).2.1.accepted =
      thenOut (handOver cb ((encodings ops).map dec) 0) (fun _ => ⟨[], .ok⟩) := by
  have he := encodings_append_flush ops
  have hflat : (specPart cfg.blockSize (ops ++ [.flush]) []).1.flatten = encodings ops := by
    have := C09.spec_preserves cfg.blockSize (ops ++ [.flush]) []
    rwa [C09.spec_flush_drains, he, List.append_nil, List.nil_append] at this
  rw [written_read cfg (ops ++ [EncOp.flush]) hh hs hcomp hsmall dec (he ▸ hdec) (he ▸ hn) (he ▸ hn63) cb, hflat]

/-- **write then read, whole files**: for every history of `Encode`/`Flush` calls ended by a `Flush`,
every block size, every compressor the reader's decompressor undoes, the bytes the writer accepted
are read back as exactly the written records, in order, and reading succeeds. `dec r` is the value
the record decoder yields for the encoding `r` (which it must decode exactly, whatever follows). -/
theorem write_then_read (cfg : EncCfg) (ops : List EncOp)
    {X : Ext α} {fuel : Nat} {H : Header} {sel : CodecSel} {rc : RecCodec α}
    (hh : ValidHeader X fuel cfg.header H sel rc) (hs : H.sync = cfg.sync)
    (hcomp : ∀ x, decompress X sel (cfg.compress x) = .ok x)
    (hsmall : ∀ blk ∈ (specPart cfg.blockSize (ops ++ [.flush]) []).1, (cfg.compress blk.flatten).length ≤ maxLen)
    (dec : Bytes → α) (hdec : ∀ r ∈ encodings ops, ∀ rest, rc.decode (r ++ rest) = .ok (dec r, rest))
    (hn : (encodings ops).length < fuel) (hn63 : (encodings ops).length < 2 ^ 63)
    (cb : Nat → Option ε) (hcb : ∀ i, cb i = none) :
    ∃ s' w', encRun cfg {} (ops ++ [.flush]) = (s', w', none) ∧ s'.count = 0 ∧ s'.wb = [] ∧
      readFile X fuel cb w'.accepted = ⟨(encodings ops).map dec, .ok⟩ := by
  obtain ⟨w', hrun⟩ := C09.flush_drains cfg ops
  refine ⟨_, w', hrun, rfl, rfl, ?_⟩
  have := written_read_flushed cfg ops hh hs hcomp hsmall dec hdec hn hn63 cb
  rw [hrun, handOver_none cb hcb] at this
  simpa [thenOut] using this

end Avro.EndToEnd
