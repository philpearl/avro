import AvroModel.File
import AvroModel.Lemmas.Bytes
/-!
Lemmas about the container-reader model (`AvroModel/File.lean`) and the vocabulary in which the
C07 / C08 theorems are stated: blocks, frames, valid bodies, headers a writer produces.

The byte sources `io.ReadFull` and `readN` are characterised once, as `Exact` reads. `Accepts p s b`
says that reader `p`, given the well-formed segment `s` followed by anything, consumes exactly `s`, and
fails on every proper prefix; it composes along `Step.bind`. `Step.Shrinks` (for readers) and `Res.Only`
(for the block loop) put "no panic, out of fuel only for a reason, the input shrinks" into one
predicate, so each reader is walked once for `no_panic` and `fuel_enough` alike. The readers are
written with `match`; `blockBody` and the `*_eq` lemmas restate them as binds so that the two bind
rules apply. The callback protocol is separated from the bytes: `handOver` runs it on a list of
values, `thenOut` continues with the rest of the file unless the callback failed.
-/
namespace Avro.File
open Avro

/-- `binary.ReadUvarint` and `ReadBuf.uvarint` differ only in the error they report, and `binary.ReadUvarint` reports
`io.EOF` only when there was no byte at all (that is how the block loop tells the end of the file from a cut). -/
theorem ioUvarintAux_spec : ∀ (bs : Bytes) (i x : Nat),
    (∀ r, ioUvarintAux i x bs = .ok r ↔ readUvarintAux i x bs = .ok r) ∧
    (ioUvarintAux i x bs = .error .eof → i = 0 ∧ bs = []) := by
  intro bs
  induction bs with
  | nil =>
    intro i x
    simp only [ioUvarintAux, readUvarintAux]
    split
    · exact ⟨fun r => by simp, nofun⟩
    · split
      · exact ⟨fun r => by simp, fun _ => ⟨by assumption, trivial⟩⟩
      · exact ⟨fun r => by simp, nofun⟩
  | cons b tl ih =>
    intro i x
    by_cases hi : i ≥ 10
    · simp only [ioUvarintAux, hi, if_true]
      exact ⟨fun r => ⟨nofun, fun h => absurd h (readUvarintAux_ge10 _ i x r hi)⟩, nofun⟩
    · simp only [ioUvarintAux, readUvarintAux, hi, if_false]
      split
      · have : (i > 9 ∨ (i = 9 ∧ b.toNat > 1)) ↔ (i = 9 ∧ b.toNat > 1) := by omega
        simp only [this]
        split <;> exact ⟨fun r => by simp, nofun⟩
      · exact ⟨(ih _ _).1, fun h => absurd ((ih _ _).2 h).1 (Nat.succ_ne_zero i)⟩

/-- `binary.ReadVarint` and `ReadBuf.Varint` succeed on the same inputs, with the same result -/
theorem ioVarint_ok_iff (bs : Bytes) (r : Int × Bytes) : ioVarint bs = .ok r ↔ readVarint bs = .ok r := by
  unfold ioVarint readVarint readUvarint
  cases h : ioUvarintAux 0 0 bs with
  | ok x =>
    rw [((ioUvarintAux_spec bs 0 0).1 x).mp h]
    obtain ⟨n, rest⟩ := x
    exact ⟨fun e => by cases e; rfl, fun e => by cases e; rfl⟩
  | error e =>
    cases h' : readUvarintAux 0 0 bs with
    | ok x => rw [((ioUvarintAux_spec bs 0 0).1 x).mpr h'] at h; cases h
    | error e' => simp

theorem ioVarint_write (v : Int) (hv : inRange 64 v) (rest : Bytes) :
    ioVarint (writeVarint v ++ rest) = .ok (v, rest) :=
  (ioVarint_ok_iff _ _).mpr (readVarint_writeVarint v hv rest)

theorem ioVarint_length {bs : Bytes} {v : Int} {r : Bytes} (h : ioVarint bs = .ok (v, r)) : r.length < bs.length :=
  readVarint_len ((ioVarint_ok_iff _ _).mp h)

theorem ioVarint_take (v : Int) (j : Nat) (hj : j < (writeVarint v).length) :
    ∃ e, ioVarint ((writeVarint v).take j) = .error e := by
  cases h : ioVarint ((writeVarint v).take j) with
  | error e => exact ⟨e, rfl⟩
  | ok r =>
    rw [ioVarint_ok_iff, readVarint, writeVarint, readUvarint_cont (putUvarint_take_cont _ j hj)] at h
    cases h

theorem ioVarint_eof {bs : Bytes} (h : ioVarint bs = .error .eof) : bs = [] := by
  unfold ioVarint at h
  split at h
  · cases h
  · rename_i e he; cases h; exact ((ioUvarintAux_spec _ 0 0).2 he).2

/-- `f n bs` yields the first `n` bytes of `bs` and the rest, or an error when fewer are there; which
`IoErr` it is, is left open. -/
def Exact (f : Nat → Bytes → Except IoErr (Bytes × Bytes)) : Prop :=
  ∀ n bs, (n ≤ bs.length → f n bs = .ok (bs.take n, bs.drop n)) ∧ (bs.length < n → ∃ e, f n bs = .error e)

theorem Exact.append {f} (h : Exact f) (p rest : Bytes) : f p.length (p ++ rest) = .ok (p, rest) := by
  rw [(h _ _).1 (by simp), List.take_left, List.drop_left]

theorem Exact.ok {f} (h : Exact f) {n : Nat} {bs a r : Bytes} (e : f n bs = .ok (a, r)) : a.length = n ∧ bs = a ++ r := by
  by_cases hl : n ≤ bs.length
  · rw [(h n bs).1 hl] at e
    cases e
    exact ⟨by rw [List.length_take]; omega, (List.take_append_drop n bs).symm⟩
  · obtain ⟨e', he'⟩ := (h n bs).2 (by omega)
    rw [he'] at e; cases e

theorem Exact.length_le {f} (h : Exact f) {n : Nat} {bs a r : Bytes} (e : f n bs = .ok (a, r)) : r.length ≤ bs.length := by
  rw [(h.ok e).2, List.length_append]; omega

theorem readFull_exact : Exact readFull := by
  intro n bs
  unfold readFull
  by_cases h0 : n = 0
  · subst h0; exact ⟨fun _ => by simp, fun h => absurd h (Nat.not_lt_zero _)⟩
  · simp only [h0, if_false]
    refine ⟨fun h => ?_, fun h => ?_⟩
    · have h2 : ¬ bs.length = 0 := by omega
      have h3 : ¬ bs.length < n := by omega
      simp only [h2, h3, if_false]
    · split <;> exact ⟨_, rfl⟩

/-- the chunks add up to exactly the first `n` bytes; with fewer than `n` the first chunk that cannot be filled fails -/
theorem readN_exact : Exact readN := by
  intro n
  induction n using Nat.strongRecOn with
  | _ n ih =>
    intro bs
    rw [readN]
    by_cases h0 : n = 0
    · subst h0; exact ⟨fun _ => by simp, fun h => absurd h (Nat.not_lt_zero _)⟩
    · obtain ⟨m, hm, hpos, hle⟩ : ∃ m, min n chunk = m ∧ 0 < m ∧ m ≤ n :=
        ⟨_, rfl, by have : 0 < chunk := by decide
                    omega, Nat.min_le_left _ _⟩
      simp only [h0, if_false, hm]
      have ih' := ih (n - m) (by omega) (bs.drop m)
      rw [List.length_drop] at ih'
      refine ⟨fun h => ?_, fun h => ?_⟩
      · rw [(readFull_exact m bs).1 (by omega)]
        simp only
        rw [ih'.1 (by omega)]
        simp only [List.drop_drop]
        rw [← List.take_add, Nat.add_sub_cancel' hle]
      · by_cases hs : bs.length < m
        · obtain ⟨e, he⟩ := (readFull_exact m bs).2 hs
          rw [he]; exact ⟨e, rfl⟩
        · obtain ⟨e, he⟩ := ih'.2 (by omega)
          rw [(readFull_exact m bs).1 (by omega)]
          simp only
          rw [he]; exact ⟨e, rfl⟩

theorem take_append_ge {α : Type} {s t : List α} {j : Nat} (h : s.length ≤ j) : (s ++ t).take j = s ++ t.take (j - s.length) := by
  rw [List.take_append, List.take_of_length_le h]

@[simp] theorem Step.bind_ok' {β γ : Type} (b : β) (f : β → Step γ) : Step.bind (.ok b) f = f b := rfl
@[simp] theorem Step.bind_err' {β γ : Type} (k : ErrKind) (f : β → Step γ) : Step.bind (.err k : Step β) f = .err k := rfl
@[simp] theorem Step.bind_panic' {β γ : Type} (k : PanicKind) (f : β → Step γ) : Step.bind (.panic k : Step β) f = .panic k := rfl
@[simp] theorem Step.bind_fuel' {β γ : Type} (f : β → Step γ) : Step.bind (.fuel : Step β) f = .fuel := rfl
@[simp] theorem Step.bind_eq {β γ : Type} (s : Step β) (f : β → Step γ) : (s >>= f) = Step.bind s f := rfl
@[simp] theorem Step.pure_eq {β : Type} (b : β) : (pure b : Step β) = .ok b := rfl

/-- A reader `p` *accepts* the segment `s` with result `b`: on `s` followed by anything it returns
`b` and leaves exactly what followed; on every proper prefix of `s` (nothing after it: the file
ends there) it reports an error. -/
def Accepts {β : Type} (p : Bytes → Step (β × Bytes)) (s : Bytes) (b : β) : Prop :=
  (∀ rest, p (s ++ rest) = .ok (b, rest)) ∧ (∀ j, j < s.length → ∃ e, p (s.take j) = .err e)

theorem Accepts.congr {β : Type} {p p' : Bytes → Step (β × Bytes)} {s : Bytes} {b : β}
    (h : ∀ bs, p' bs = p bs) (hp : Accepts p s b) : Accepts p' s b := by
  constructor
  · intro rest; rw [h]; exact hp.1 rest
  · intro j hj; rw [h]; exact hp.2 j hj

theorem Accepts.bind {β γ : Type} {p : Bytes → Step (β × Bytes)} {q : β × Bytes → Step (γ × Bytes)}
    {s t : Bytes} {b : β} {c : γ} (hp : Accepts p s b) (hq : Accepts (fun bs => q (b, bs)) t c) :
    Accepts (fun bs => (p bs).bind q) (s ++ t) c := by
  constructor
  · intro rest
    simp only [List.append_assoc, hp.1, Step.bind_ok']
    exact hq.1 rest
  · intro j hj
    by_cases hjs : j < s.length
    · obtain ⟨e, he⟩ := hp.2 j hjs
      exact ⟨e, by simp only [List.take_append_of_le_length (Nat.le_of_lt hjs), he, Step.bind_err']⟩
    · simp only [take_append_ge (Nat.le_of_not_lt hjs), hp.1, Step.bind_ok']
      exact hq.2 _ (by simp at hj; omega)

theorem Accepts.bind_pure {β γ : Type} {p : Bytes → Step (β × Bytes)} {q : β × Bytes → Step (γ × Bytes)}
    {s : Bytes} {b : β} {c : γ} (hp : Accepts p s b) (hq : ∀ r, q (b, r) = .ok (c, r)) :
    Accepts (fun bs => (p bs).bind q) s c :=
  List.append_nil s ▸ hp.bind ⟨hq, fun _ hj => absurd hj (Nat.not_lt_zero _)⟩

def liftIO {β : Type} (ek : ErrKind) : Except IoErr β → Step β
  | .ok x => .ok x
  | .error _ => .err ek

@[simp] theorem liftIO_ok {β : Type} (ek : ErrKind) (x : β) : liftIO ek (.ok x) = .ok x := rfl
@[simp] theorem liftIO_error {β : Type} (ek : ErrKind) (e : IoErr) : liftIO ek (.error e : Except IoErr β) = .err ek := rfl

theorem varint_accepts (ek : ErrKind) (v : Int) (hv : inRange 64 v) :
    Accepts (fun bs => liftIO ek (ioVarint bs)) (writeVarint v) v :=
  ⟨fun rest => by simp only [ioVarint_write v hv, liftIO_ok],
   fun j hj => by obtain ⟨e, he⟩ := ioVarint_take v j hj; exact ⟨ek, by simp only [he, liftIO_error]⟩⟩

theorem Exact.accepts {f} (h : Exact f) (ek : ErrKind) {n : Nat} (p : Bytes) (hn : p.length = n) :
    Accepts (fun bs => liftIO ek (f n bs)) p p := by
  subst hn
  refine ⟨fun rest => by simp only [h.append, liftIO_ok], fun j hj => ?_⟩
  obtain ⟨e, he⟩ := (h p.length (p.take j)).2 (by rw [List.length_take]; omega)
  exact ⟨ek, by simp only [he, liftIO_error]⟩

theorem readBytes_eq (ek : ErrKind) (bs : Bytes) :
    readBytes ek bs = (liftIO ek (ioVarint bs)).bind fun (l, r) =>
      if l < 0 then .err ek else liftIO ek (readN l.toNat r) := by
  unfold readBytes
  cases ioVarint bs with
  | error e => rfl
  | ok x =>
    simp only [liftIO_ok, Step.bind_ok']
    split
    · rfl
    · cases readN x.1.toNat x.2 <;> rfl

theorem readMeta_succ (fuel : Nat) (bs : Bytes) (m : Meta) :
    readMeta (fuel + 1) bs m = (liftIO .metaCount (ioVarint bs)).bind fun (c, r) =>
      if c = 0 then .ok (m, r) else if c < 0 then .err .metaNegCount
      else (readEntries c.toNat r m).bind fun (m', r') => readMeta fuel r' m' := by
  simp only [readMeta]
  cases ioVarint bs <;> rfl

theorem readFileHeader_eq (fuel : Nat) (bs : Bytes) :
    readFileHeader fuel bs = (liftIO .magicRead (readFull 4 bs)).bind fun (mg, r) =>
      if mg ≠ magic then .err .magic
      else (readMeta fuel r []).bind fun (mt, r') =>
        (liftIO .headerSync (readFull 16 r')).bind fun (s, r'') => .ok ({ «meta» := mt, sync := s }, r'') := by
  unfold readFileHeader
  cases readFull 4 bs with
  | error e => rfl
  | ok x =>
    simp only [liftIO_ok, Step.bind_ok', Step.bind_eq]
    split
    · rfl
    · congr 1; funext y; cases readFull 16 y.2 <;> rfl

/-- a `bytes` datum (keys and values of the header map): zig-zag length, then the bytes -/
def lenPrefixed (b : Bytes) : Bytes := writeVarint b.length ++ b

def entryBytes (kv : Bytes × Bytes) : Bytes := lenPrefixed kv.1 ++ lenPrefixed kv.2

def entriesBytes (es : List (Bytes × Bytes)) : Bytes := (es.map entryBytes).flatten

theorem entriesBytes_cons (kv : Bytes × Bytes) (es : List (Bytes × Bytes)) :
    entriesBytes (kv :: es) = lenPrefixed kv.1 ++ (lenPrefixed kv.2 ++ entriesBytes es) := by
  simp [entriesBytes, entryBytes]

def metaBlock (es : List (Bytes × Bytes)) : Bytes := writeVarint es.length ++ entriesBytes es

/-- A container header: magic, the metadata map as a sequence of blocks, the terminating zero
count, the 16-byte sync marker. (The library's writer emits one block of two entries.) -/
def mkHeader (blocks : List (List (Bytes × Bytes))) (sync : Bytes) : Bytes :=
  magic ++ ((blocks.map metaBlock).flatten ++ writeVarint 0) ++ sync

/-- the map these blocks denote: a later entry for the same key wins -/
def metaOf (blocks : List (List (Bytes × Bytes))) : Meta := blocks.flatten.reverse

/-- the largest length a zig-zag varint can declare (`math.MaxInt64`) -/
def maxLen : Nat := 2 ^ 63 - 1

def SmallEntry (kv : Bytes × Bytes) : Prop := kv.1.length ≤ maxLen ∧ kv.2.length ≤ maxLen

theorem inRange_of_le_maxLen {n : Nat} (h : n ≤ maxLen) : inRange 64 (n : Int) := by
  apply inRange_of_nat_lt
  have : maxLen < 2 ^ 63 := by decide
  omega

theorem readBytes_accepts (ek : ErrKind) (b : Bytes) (hb : b.length ≤ maxLen) :
    Accepts (readBytes ek) (lenPrefixed b) b := by
  have hneg : ¬ ((b.length : Int) < 0) := by omega
  refine (Accepts.bind (varint_accepts ek _ (inRange_of_le_maxLen hb)) ?_).congr (readBytes_eq ek)
  simp only [hneg, if_false]
  exact readN_exact.accepts ek b (Int.toNat_natCast _).symm

theorem readEntries_accepts : ∀ (es : List (Bytes × Bytes)) (m : Meta), (∀ kv ∈ es, SmallEntry kv) →
    Accepts (fun bs => readEntries es.length bs m) (entriesBytes es) (es.reverse ++ m) := by
  intro es
  induction es with
  | nil => intro m _; exact ⟨fun rest => rfl, fun j hj => absurd hj (Nat.not_lt_zero j)⟩
  | cons kv es ih =>
    intro m hs
    obtain ⟨hkv, hs'⟩ := List.forall_mem_cons.mp hs
    have ih' := ih (kv :: m) hs'
    have hrev : (kv :: es).reverse ++ m = es.reverse ++ (kv :: m) := by simp
    rw [hrev, entriesBytes_cons]
    exact Accepts.bind (readBytes_accepts .metaKey kv.1 hkv.1) (Accepts.bind (readBytes_accepts .metaVal kv.2 hkv.2) ih')

/-- `es ≠ []`: a zero count ends the map, so an empty block cannot be written; the two bounds keep
the count and the lengths within the zig-zag varint's range. -/
def GoodMetaBlocks (blocks : List (List (Bytes × Bytes))) : Prop :=
  ∀ es ∈ blocks, es ≠ [] ∧ es.length ≤ maxLen ∧ ∀ kv ∈ es, SmallEntry kv

/-- the single block the library's writer emits, `avro.schema` and `avro.codec`, is well-formed -/
theorem good_writerMeta (js name : Bytes) (hjs : js.length ≤ maxLen) (hname : name.length ≤ maxLen) :
    GoodMetaBlocks [[(kSchema, js), (kCodec, name)]] := by
  intro es hes
  simp only [List.mem_singleton] at hes
  subst hes
  refine ⟨by simp, (by show 2 ≤ maxLen; decide), ?_⟩
  intro kv hkv
  simp only [List.mem_cons, List.not_mem_nil, or_false] at hkv
  rcases hkv with rfl | rfl
  · exact ⟨(by show kSchema.length ≤ maxLen; decide), hjs⟩
  · exact ⟨(by show kCodec.length ≤ maxLen; decide), hname⟩

theorem readMeta_accepts : ∀ (blocks : List (List (Bytes × Bytes))) (m : Meta) (fuel : Nat),
    GoodMetaBlocks blocks → blocks.length < fuel →
    Accepts (fun bs => readMeta fuel bs m) ((blocks.map metaBlock).flatten ++ writeVarint 0) (blocks.flatten.reverse ++ m) := by
  intro blocks
  induction blocks with
  | nil =>
    intro m fuel _ hf
    obtain ⟨fuel, rfl⟩ := Nat.exists_eq_add_one_of_ne_zero (Nat.ne_zero_of_lt hf)
    refine (Accepts.bind_pure (varint_accepts .metaCount 0 (by decide)) ?_).congr (readMeta_succ fuel · m)
    exact fun r => rfl
  | cons es blocks ih =>
    intro m fuel hg hf
    obtain ⟨fuel, rfl⟩ := Nat.exists_eq_add_one_of_ne_zero (Nat.ne_zero_of_lt hf)
    obtain ⟨⟨hne, hlen, hsmall⟩, hg'⟩ := List.forall_mem_cons.mp hg
    have ih' := ih (es.reverse ++ m) fuel hg' (by simp at hf; omega)
    have hpos : 0 < es.length := by cases es with | nil => exact absurd rfl hne | cons _ _ => simp
    have hc0 : ¬ ((es.length : Int) = 0) := by omega
    have hcn : ¬ ((es.length : Int) < 0) := by omega
    have hbytes : ((es :: blocks).map metaBlock).flatten ++ writeVarint 0 =
        writeVarint (es.length : Int) ++ (entriesBytes es ++ ((blocks.map metaBlock).flatten ++ writeVarint 0)) := by
      simp [metaBlock]
    have hres : (es :: blocks).flatten.reverse ++ m = blocks.flatten.reverse ++ (es.reverse ++ m) := by simp
    rw [hbytes, hres]
    refine (Accepts.bind (varint_accepts .metaCount _ (inRange_of_le_maxLen hlen)) ?_).congr (readMeta_succ fuel · m)
    simp only [hc0, hcn, if_false, Int.toNat_natCast]
    exact Accepts.bind (readEntries_accepts es m hsmall) ih'

theorem readFileHeader_accepts (blocks : List (List (Bytes × Bytes))) (sync : Bytes) (fuel : Nat)
    (hg : GoodMetaBlocks blocks) (hf : blocks.length < fuel) (hs : sync.length = 16) :
    Accepts (readFileHeader fuel) (mkHeader blocks sync) { «meta» := metaOf blocks, sync := sync } := by
  have hm := readMeta_accepts blocks [] fuel hg hf
  simp only [List.append_nil] at hm
  unfold mkHeader
  rw [List.append_assoc]
  refine (Accepts.bind (readFull_exact.accepts .magicRead magic rfl) ?_).congr (readFileHeader_eq fuel)
  simp only [ne_eq, not_true_eq_false, if_false]
  refine Accepts.bind hm ?_
  dsimp only
  refine Accepts.bind_pure (readFull_exact.accepts .headerSync sync hs) ?_
  exact fun r => rfl

/-- The step does not panic, it runs out of fuel only if `F`, and when it succeeds it leaves fewer than `n` bytes. -/
def Step.Shrinks {β : Type} (F : Prop) (n : Nat) : Step (β × Bytes) → Prop
  | .ok x => x.2.length < n
  | .err _ => True
  | .panic _ => False
  | .fuel => F

section
variable {β γ : Type} {F F' : Prop} {n m : Nat} {s : Step (β × Bytes)}

theorem Step.Shrinks.ne_panic (h : s.Shrinks F n) (k : PanicKind) : s ≠ .panic k := by
  intro e; rw [e] at h; exact h

theorem Step.Shrinks.ne_fuel (h : s.Shrinks F n) (hF : ¬ F) : s ≠ .fuel := by
  intro e; rw [e] at h; exact hF h

theorem Step.Shrinks.length {b : β} {r : Bytes} (h : s.Shrinks F n) (e : s = .ok (b, r)) : r.length < n := by
  rw [e] at h; exact h

theorem Step.Shrinks.mono (h : s.Shrinks F n) (hn : n ≤ m) (hF : F → F') : s.Shrinks F' m := by
  cases s with
  | ok x => exact Nat.lt_of_lt_of_le h hn
  | err e => trivial
  | panic k => exact h
  | fuel => exact hF h

theorem Step.Shrinks.bind {f : β × Bytes → Step (γ × Bytes)}
    (hs : s.Shrinks F n) (hf : ∀ b r, r.length < n → (f (b, r)).Shrinks F m) : (s.bind f).Shrinks F m := by
  cases s with
  | ok x => exact hf x.1 x.2 hs
  | err e => trivial
  | panic k => exact hs
  | fuel => exact hs

theorem liftIO_shrinks (ek : ErrKind) {e : Except IoErr (β × Bytes)} (h : ∀ b r, e = .ok (b, r) → r.length < n) :
    (liftIO ek e).Shrinks F n := by
  cases e with
  | error _ => trivial
  | ok x => exact h x.1 x.2 rfl

theorem varint_shrinks (ek : ErrKind) (bs : Bytes) : (liftIO ek (ioVarint bs)).Shrinks F bs.length :=
  liftIO_shrinks ek fun _ _ h => ioVarint_length h

theorem Exact.shrinks {f} (h : Exact f) (ek : ErrKind) (k : Nat) (bs : Bytes) : (liftIO ek (f k bs)).Shrinks F (bs.length + 1) :=
  liftIO_shrinks ek fun _ _ e => Nat.lt_succ_of_le (h.length_le e)

theorem readBytes_shrinks (ek : ErrKind) (bs : Bytes) : (readBytes ek bs).Shrinks F bs.length := by
  rw [readBytes_eq]
  refine (varint_shrinks ek bs).bind fun l r hr => ?_
  dsimp only
  split
  · trivial
  · exact (readN_exact.shrinks ek _ r).mono hr id

theorem readEntries_shrinks : ∀ (k : Nat) (bs : Bytes) (mt : Meta), (readEntries k bs mt).Shrinks F (bs.length + 1) := by
  intro k
  induction k with
  | zero => intro bs mt; exact Nat.lt_succ_self _
  | succ k ih =>
    intro bs mt
    refine (readBytes_shrinks .metaKey bs).bind fun key r1 h1 => ?_
    refine (readBytes_shrinks .metaVal r1).bind fun v r2 h2 => ?_
    exact (ih r2 _).mono (by omega) id

theorem readMeta_shrinks : ∀ (fuel : Nat) (bs : Bytes) (mt : Meta), (readMeta fuel bs mt).Shrinks (fuel ≤ bs.length) bs.length := by
  intro fuel
  induction fuel with
  | zero => intro bs mt; exact Nat.zero_le _
  | succ fuel ih =>
    intro bs mt
    rw [readMeta_succ]
    refine (varint_shrinks .metaCount bs).bind fun c r hr => ?_
    dsimp only
    split
    · exact hr
    · split
      · trivial
      · refine (readEntries_shrinks c.toNat r mt).bind fun mt' r' hr' => ?_
        exact (ih r' mt').mono (by omega) (by omega)

theorem readFileHeader_shrinks (fuel : Nat) (bs : Bytes) : (readFileHeader fuel bs).Shrinks (fuel ≤ bs.length) bs.length := by
  rw [readFileHeader_eq]
  refine (readFull_exact.shrinks .magicRead 4 bs).bind fun mg r hr => ?_
  dsimp only
  split
  · trivial
  · refine ((readMeta_shrinks fuel r []).mono (Nat.le_of_lt_succ hr) (by omega)).bind fun mt r' hr' => ?_
    refine (readFull_exact.shrinks .headerSync 16 r').bind fun sy r'' hr'' => ?_
    exact (show r''.length < bs.length by omega)

end

section
variable {α ε : Type}

/-- A data block as a writer lays it out: the records (value and encoding) it declares, bytes that
may follow the last record inside the block (none in a file produced by a writer; the reader
ignores them), and the payload as stored (the compressed form of the block data). -/
structure Blk (α : Type) where
  recs : List (α × Bytes)
  junk : Bytes
  payload : Bytes

def Blk.vals (b : Blk α) : List α := b.recs.map (·.1)
def Blk.data (b : Blk α) : Bytes := (b.recs.map (·.2)).flatten ++ b.junk

def frameHead (b : Blk α) : Bytes :=
  writeVarint b.recs.length ++ (writeVarint b.payload.length ++ b.payload)

def frame (sync : Bytes) (b : Blk α) : Bytes := frameHead b ++ sync

def body (sync : Bytes) (bl : List (Blk α)) : Bytes := (bl.map (frame sync)).flatten

/-- `small` and `count` keep the payload length and the record count within the range of the varints
that declare them. -/
structure GoodBlk (decomp : Bytes → Step Bytes) (decode : Bytes → Outcome (α × Bytes)) (b : Blk α) : Prop where
  decomp : decomp b.payload = .ok b.data
  exact : ∀ ve ∈ b.recs, ∀ rest, decode (ve.2 ++ rest) = .ok (ve.1, rest)
  small : b.payload.length ≤ maxLen
  count : b.recs.length < 2 ^ 63

/-- The callback protocol on its own: hand over `vs` (global indices from `idx`) until the callback
returns an error; the record it failed on has been handed over. -/
def handOver (cb : Nat → Option ε) : List α → Nat → List α × Option ε
  | [], _ => ([], none)
  | v :: vs, idx =>
    match cb idx with
    | some e => ([v], some e)
    | none => (v :: (handOver cb vs (idx + 1)).1, (handOver cb vs (idx + 1)).2)

/-- the outcome of a hand-over `h` followed by the rest of the reading `k` (told how many records were
handed over), unless the callback failed -/
def thenOut (h : List α × Option ε) (k : Nat → Out α ε) : Out α ε :=
  match h.2 with
  | some e => ⟨h.1, .cb e⟩
  | none => ⟨h.1 ++ (k h.1.length).delivered, (k h.1.length).res⟩

theorem handOver_none (cb : Nat → Option ε) (hcb : ∀ i, cb i = none) : ∀ (vs : List α) (idx : Nat),
    handOver cb vs idx = (vs, none) := by
  intro vs
  induction vs with
  | nil => intro idx; rfl
  | cons v vs ih => intro idx; simp [handOver, hcb, ih]

theorem handOver_fail (cb : Nat → Option ε) (i : Nat) (e : ε) (hi : cb i = some e) : ∀ (vs : List α) (idx : Nat),
    idx ≤ i → i < idx + vs.length → (∀ j, idx ≤ j → j < i → cb j = none) →
    handOver cb vs idx = (vs.take (i - idx + 1), some e) := by
  intro vs
  induction vs with
  | nil => intro idx h1 h2 _; simp at h2; omega
  | cons v vs ih =>
    intro idx h1 h2 h
    by_cases heq : idx = i
    · subst heq; simp [handOver, hi]
    · have h0 := h idx (by omega) (by omega)
      have := ih (idx + 1) (by omega) (by simp at h2; omega) (fun j a b => h j (by omega) b)
      have e1 : i - idx + 1 = (i - (idx + 1) + 1) + 1 := by omega
      simp [handOver, h0, this, e1]

theorem thenOut_cons (v : α) (h : List α × Option ε) (k : Nat → Out α ε) :
    thenOut (v :: h.1, h.2) k =
      ⟨v :: (thenOut h (fun n => k (n + 1))).delivered, (thenOut h (fun n => k (n + 1))).res⟩ := by
  obtain ⟨vs, o⟩ := h
  cases o <;> rfl

theorem thenOut_handOver_append (cb : Nat → Option ε) : ∀ (xs ys : List α) (idx : Nat) (k : Nat → Out α ε),
    thenOut (handOver cb (xs ++ ys) idx) k =
      thenOut (handOver cb xs idx) (fun n => thenOut (handOver cb ys (idx + n)) (fun m => k (n + m))) := by
  intro xs
  induction xs with
  | nil => intro ys idx k; simp [handOver, thenOut]
  | cons x xs ih =>
    intro ys idx k
    simp only [List.cons_append, handOver]
    cases hc : cb idx with
    | some e => rfl
    | none =>
      simp only [thenOut_cons, ih]
      simp only [Nat.add_assoc, Nat.add_comm 1]

def blockBody (bs : Bytes) : Step ((Int × Bytes) × Bytes) :=
  (liftIO .count (ioVarint bs)).bind fun (count, r1) =>
    (liftIO .length (ioVarint r1)).bind fun (len, r2) =>
      if len < 0 then .err .negLength
      else (liftIO .payload (readN len.toNat r2)).bind fun (comp, r3) => .ok ((count, comp), r3)

theorem blockHead_nil : blockHead [] = .ok none := by
  simp [blockHead, ioVarint, ioUvarintAux]

theorem blockHead_eq {bs : Bytes} (hne : bs ≠ []) :
    blockHead bs = (blockBody bs).bind fun (cp, r3) => .ok (some (cp.1, cp.2, r3)) := by
  unfold blockHead blockBody
  cases h1 : ioVarint bs with
  | error e =>
    cases e with
    | eof => exact absurd (ioVarint_eof h1) hne
    | unexpectedEOF => rfl
    | overflow => rfl
  | ok x =>
    simp only [liftIO_ok, Step.bind_ok']
    cases ioVarint x.2 with
    | error e => rfl
    | ok y =>
      simp only [liftIO_ok, Step.bind_ok']
      split
      · rfl
      · cases readN y.1.toNat y.2 <;> rfl

theorem blockBody_accepts (c : Int) (p : Bytes) (hc : inRange 64 c) (hp : p.length ≤ maxLen) :
    Accepts blockBody (writeVarint c ++ (writeVarint p.length ++ p)) (c, p) := by
  have hneg : ¬ ((p.length : Int) < 0) := by omega
  refine Accepts.bind (varint_accepts .count c hc) (Accepts.bind (varint_accepts .length _ (inRange_of_le_maxLen hp)) ?_)
  simp only [hneg, if_false]
  refine Accepts.bind_pure (readN_exact.accepts .payload p (Int.toNat_natCast _).symm) ?_
  exact fun r => rfl

theorem blockBody_shrinks {F : Prop} (bs : Bytes) : (blockBody bs).Shrinks F bs.length := by
  refine (varint_shrinks .count bs).bind fun c r1 h1 => ?_
  refine (varint_shrinks .length r1).bind fun l r2 h2 => ?_
  dsimp only
  split
  · trivial
  · refine (readN_exact.shrinks .payload _ r2).bind fun comp r3 h3 => ?_
    exact (show r3.length < bs.length by omega)

theorem blockHead_cases (bs : Bytes) : blockHead bs = .ok none ∨ (∃ e, blockHead bs = .err e) ∨
    ∃ c comp r3, blockHead bs = .ok (some (c, comp, r3)) ∧ r3.length < bs.length := by
  cases bs with
  | nil => exact Or.inl blockHead_nil
  | cons b tl =>
    have hs := blockBody_shrinks (F := False) (b :: tl)
    rw [blockHead_eq (List.cons_ne_nil b tl)]
    cases hb : blockBody (b :: tl) with
    | ok x => exact Or.inr (Or.inr ⟨x.1.1, x.1.2, x.2, rfl, hs.length hb⟩)
    | err e => exact Or.inr (Or.inl ⟨e, rfl⟩)
    | panic k => exact absurd hb (hs.ne_panic k)
    | fuel => exact absurd hb (hs.ne_fuel id)

theorem deliver_good (decode : Bytes → Outcome (α × Bytes)) (cb : Nat → Option ε) : ∀ (recs : List (α × Bytes)) (junk : Bytes) (idx : Nat),
    (∀ ve ∈ recs, ∀ rest, decode (ve.2 ++ rest) = .ok (ve.1, rest)) →
    deliver decode cb recs.length ((recs.map (·.2)).flatten ++ junk) idx =
      ((handOver cb (recs.map (·.1)) idx).1, (handOver cb (recs.map (·.1)) idx).2.map Res.cb) := by
  intro recs
  induction recs with
  | nil => intro junk idx _; simp [deliver, handOver]
  | cons ve recs ih =>
    intro junk idx h
    obtain ⟨h1, h'⟩ := List.forall_mem_cons.mp h
    have ih' := ih junk (idx + 1) h'
    simp only [List.length_cons, List.map_cons, List.flatten_cons, List.append_assoc, deliver, h1 ((recs.map (·.2)).flatten ++ junk), handOver]
    cases hc : cb idx with
    | some e => simp
    | none => simp [ih']

/-- What follows a block's payload (file.go:201-208): sixteen bytes are read and compared with the
header's sync marker; `next` goes on with the rest. -/
def syncThen (sync R : Bytes) (next : Bytes → Out α ε) : Out α ε :=
  match readFull 16 R with
  | .error _ => ⟨[], .err .syncRead⟩
  | .ok (sig, r4) => if sig ≠ sync then ⟨[], .err .syncMismatch⟩ else next r4

theorem syncThen_sync {sync X : Bytes} {next : Bytes → Out α ε} (hs : sync.length = 16) :
    syncThen sync (sync ++ X) next = next X := by
  unfold syncThen; rw [← hs, readFull_exact.append]; simp

theorem syncThen_other {sync sig X : Bytes} {next : Bytes → Out α ε} (hlen : sig.length = 16) (hne : sig ≠ sync) :
    syncThen sync (sig ++ X) next = ⟨[], .err .syncMismatch⟩ := by
  unfold syncThen; rw [← hlen, readFull_exact.append]; simp [hne]

theorem syncThen_cut {sync : Bytes} {j : Nat} {next : Bytes → Out α ε} (hs : sync.length = 16) (hj : j < 16) :
    syncThen sync (sync.take j) next = ⟨[], .err .syncRead⟩ := by
  obtain ⟨e, he⟩ := (readFull_exact 16 (sync.take j)).2 (by rw [List.length_take]; omega)
  unfold syncThen; rw [he]

theorem blockTail_good (cfg : Cfg α ε) (next : Bytes → Nat → Out α ε) (b : Blk α) (R : Bytes) (idx : Nat)
    (hb : GoodBlk cfg.decomp cfg.decode b) :
    blockTail cfg next (b.recs.length : Int) b.payload R idx =
      thenOut (handOver cfg.cb b.vals idx) (fun n => syncThen cfg.sync R (fun r => next r (idx + n))) := by
  unfold blockTail
  rw [hb.decomp]
  simp only [Int.toNat_natCast, Blk.data]
  rw [deliver_good cfg.decode cfg.cb b.recs b.junk idx hb.exact]
  unfold thenOut syncThen Blk.vals
  cases h : (handOver cfg.cb (b.recs.map (·.1)) idx).2 with
  | some e => simp
  | none =>
    simp only [Option.map_none]
    cases readFull 16 R with
    | error _ => simp
    | ok x => by_cases hsig : x.1 = cfg.sync <;> simp [hsig]

theorem readBlocks_nil (cfg : Cfg α ε) (fuel idx : Nat) : readBlocks cfg (fuel + 1) [] idx = ⟨[], .ok⟩ := by
  simp [readBlocks, blockHead_nil]

theorem readBlocks_raw {cfg : Cfg α ε} {fuel idx : Nat} {c : Int} {p X : Bytes} (hc : inRange 64 c) (hp : p.length ≤ maxLen) :
    readBlocks cfg (fuel + 1) (writeVarint c ++ (writeVarint p.length ++ p) ++ X) idx =
      blockTail cfg (readBlocks cfg fuel) c p X idx := by
  have hne : writeVarint c ++ (writeVarint p.length ++ p) ++ X ≠ [] := by simp [writeVarint_ne_nil]
  rw [readBlocks, blockHead_eq hne, (blockBody_accepts c p hc hp).1 X]
  rfl

theorem readBlocks_block (cfg : Cfg α ε) {fuel idx : Nat} (b : Blk α) {R : Bytes}
    (hb : GoodBlk cfg.decomp cfg.decode b) :
    readBlocks cfg (fuel + 1) (frameHead b ++ R) idx =
      thenOut (handOver cfg.cb b.vals idx) (fun n => syncThen cfg.sync R (fun r => readBlocks cfg fuel r (idx + n))) := by
  unfold frameHead
  rw [readBlocks_raw (inRange_of_nat_lt hb.count) hb.small]
  exact blockTail_good cfg _ b R idx hb

theorem readBlocks_frame (cfg : Cfg α ε) {fuel idx : Nat} (b : Blk α) {X : Bytes}
    (hb : GoodBlk cfg.decomp cfg.decode b) (hs : cfg.sync.length = 16) :
    readBlocks cfg (fuel + 1) (frame cfg.sync b ++ X) idx =
      thenOut (handOver cfg.cb b.vals idx) (fun n => readBlocks cfg fuel X (idx + n)) := by
  rw [frame, List.append_assoc, readBlocks_block cfg b hb]
  simp only [syncThen_sync hs]

def allVals (bl : List (Blk α)) : List α := bl.flatMap Blk.vals

theorem body_cons (sync : Bytes) (b : Blk α) (bl : List (Blk α)) : body sync (b :: bl) = frame sync b ++ body sync bl := by
  simp [body]

theorem allVals_cons (b : Blk α) (bl : List (Blk α)) : allVals (b :: bl) = b.vals ++ allVals bl := by
  simp [allVals]

theorem readBlocks_body (cfg : Cfg α ε) (hs : cfg.sync.length = 16) : ∀ (bl : List (Blk α)) (fuel idx : Nat) (X : Bytes),
    (∀ b ∈ bl, GoodBlk cfg.decomp cfg.decode b) →
    readBlocks cfg (fuel + bl.length) (body cfg.sync bl ++ X) idx =
      thenOut (handOver cfg.cb (allVals bl) idx) (fun n => readBlocks cfg fuel X (idx + n)) := by
  intro bl
  induction bl with
  | nil => intro fuel idx X _; simp [body, allVals, handOver, thenOut]
  | cons b bl ih =>
    intro fuel idx X hg
    obtain ⟨hb, hg'⟩ := List.forall_mem_cons.mp hg
    have ih' := fun i => ih fuel i X hg'
    rw [List.length_cons, ← Nat.add_assoc, body_cons, List.append_assoc,
      readBlocks_frame cfg b hb hs, allVals_cons, thenOut_handOver_append]
    simp only [ih', Nat.add_assoc]

theorem frameHead_length_pos (b : Blk α) : 0 < (frameHead b).length := by
  have := writeVarint_length_pos (b.recs.length : Int)
  simp only [frameHead, List.length_append]; omega

/-- Records of the blocks whose payload ends at or before absolute file position `k`;
`off` is the absolute position where the first block of `bl` starts. -/
def completeVals (sync : Bytes) : Nat → List (Blk α) → Nat → List α
  | _, [], _ => []
  | off, b :: bl, k =>
    (if off + (frameHead b).length ≤ k then b.vals else []) ++ completeVals sync (off + (frame sync b).length) bl k

/-- The positions at which a writer can have stopped cleanly: the end of the header and the end of every block. -/
def boundaries (sync : Bytes) : Nat → List (Blk α) → List Nat
  | off, [] => [off]
  | off, b :: bl => off :: boundaries sync (off + (frame sync b).length) bl

theorem completeVals_before (sync : Bytes) : ∀ (bl : List (Blk α)) (off k : Nat), k ≤ off → completeVals sync off bl k = [] := by
  intro bl
  induction bl with
  | nil => intro off k _; rfl
  | cons b bl ih =>
    intro off k h
    have := frameHead_length_pos b
    have h1 : ¬ off + (frameHead b).length ≤ k := by omega
    simp [completeVals, h1, ih _ _ (show k ≤ off + (frame sync b).length by omega)]

theorem boundaries_ge {sync : Bytes} : ∀ {bl : List (Blk α)} {off x : Nat}, x ∈ boundaries sync off bl → off ≤ x := by
  intro bl
  induction bl with
  | nil => intro off x h; simp [boundaries] at h; omega
  | cons b bl ih =>
    intro off x h
    simp only [boundaries, List.mem_cons] at h
    rcases h with rfl | h
    · omega
    · have := ih h; omega

theorem completeVals_prefix {sync : Bytes} : ∀ {bl : List (Blk α)} {off k : Nat}, completeVals sync off bl k <+: allVals bl := by
  intro bl
  induction bl with
  | nil => intro off k; simp [completeVals, allVals]
  | cons b bl ih =>
    intro off k
    rw [allVals_cons]
    simp only [completeVals]
    by_cases h : off + (frameHead b).length ≤ k
    · simp only [h, if_true]; exact (List.prefix_append_right_inj _).mpr ih
    · rw [completeVals_before sync bl _ k (by simp only [frame, List.length_append]; omega)]; simp [h]

/-- a frame cut strictly inside: an error; the block's records were handed over iff its payload is complete -/
theorem readBlocks_cut (cfg : Cfg α ε) (hs : cfg.sync.length = 16) (b : Blk α) (hb : GoodBlk cfg.decomp cfg.decode b)
    (f j : Nat) (h0 : 0 < j) (hj : j < (frame cfg.sync b).length) :
    ∃ e, ∀ idx, readBlocks cfg (f + 1) ((frame cfg.sync b).take j) idx =
      thenOut (handOver cfg.cb (if (frameHead b).length ≤ j then b.vals else []) idx) (fun _ => ⟨[], .err e⟩) := by
  have hfl : (frame cfg.sync b).length = (frameHead b).length + 16 := by simp [frame, hs]
  by_cases h3 : j < (frameHead b).length
  · -- inside count, length or payload
    obtain ⟨e, he⟩ := (blockBody_accepts _ _ (inRange_of_nat_lt hb.count) hb.small).2 j h3
    have hne : (frameHead b).take j ≠ [] := List.ne_nil_of_length_pos (by rw [List.length_take]; omega)
    refine ⟨e, fun idx => ?_⟩
    rw [frame, List.take_append_of_le_length (Nat.le_of_lt h3), if_neg (by omega), readBlocks, blockHead_eq hne]
    simp [frameHead, he, handOver, thenOut]
  · -- payload complete, sync marker cut short
    refine ⟨.syncRead, fun idx => ?_⟩
    rw [frame, take_append_ge (by omega), readBlocks_block cfg b hb, if_pos (by omega)]
    simp only [syncThen_cut hs (show j - (frameHead b).length < 16 by omega)]

/-- `r` is chosen before `idx`: the induction needs one result for every index. -/
theorem readBlocks_take (cfg : Cfg α ε) (hs : cfg.sync.length = 16) : ∀ (bl : List (Blk α)) (fuel off j : Nat),
    (∀ b ∈ bl, GoodBlk cfg.decomp cfg.decode b) → bl.length < fuel → j ≤ (body cfg.sync bl).length →
    ∃ r : Res ε, (off + j ∈ boundaries cfg.sync off bl → r = .ok) ∧ (off + j ∉ boundaries cfg.sync off bl → ∃ e, r = .err e) ∧
      ∀ idx, readBlocks cfg fuel ((body cfg.sync bl).take j) idx =
        thenOut (handOver cfg.cb (completeVals cfg.sync off bl (off + j)) idx) (fun _ => ⟨[], r⟩) := by
  intro bl
  induction bl with
  | nil =>
    intro fuel off j _ hf h2
    obtain ⟨f, rfl⟩ := Nat.exists_eq_add_one_of_ne_zero (Nat.ne_zero_of_lt hf)
    obtain rfl : j = 0 := by simpa [body] using h2
    exact ⟨.ok, fun _ => rfl, fun h => absurd (by simp [boundaries]) h, fun idx => by
      simp [body, readBlocks_nil, completeVals, handOver, thenOut]⟩
  | cons b bl ih =>
    intro fuel off j hg hf h2
    obtain ⟨f, rfl⟩ := Nat.exists_eq_add_one_of_ne_zero (Nat.ne_zero_of_lt hf)
    obtain ⟨hb, hg'⟩ := List.forall_mem_cons.mp hg
    have hpos := frameHead_length_pos b
    rw [body_cons] at h2 ⊢
    simp only [boundaries, completeVals, List.mem_cons]
    by_cases h4 : j < (frame cfg.sync b).length
    · -- the cut falls inside this block: nothing of the later blocks is there
      have hnb : off + j ∉ boundaries cfg.sync (off + (frame cfg.sync b).length) bl := fun h => by
        have := boundaries_ge h; omega
      rw [completeVals_before cfg.sync bl _ _ (by omega), List.append_nil, List.take_append_of_le_length (Nat.le_of_lt h4)]
      by_cases h0 : j = 0
      · subst h0
        refine ⟨.ok, fun _ => rfl, fun h => absurd (Or.inl rfl) h, fun idx => ?_⟩
        rw [List.take_zero, readBlocks_nil, if_neg (by omega)]; rfl
      · obtain ⟨e, he⟩ := readBlocks_cut cfg hs b hb f j (by omega) h4
        refine ⟨.err e, fun h => absurd h (by simp [hnb]; omega), fun _ => ⟨e, rfl⟩, fun idx => ?_⟩
        simp only [he, Nat.add_le_add_iff_left]
    · -- the whole block is there
      obtain ⟨r, hr1, hr2, hr3⟩ := ih f (off + (frame cfg.sync b).length) (j - (frame cfg.sync b).length)
        hg' (by simp at hf; omega) (by simp only [List.length_append] at h2; omega)
      have e : off + (frame cfg.sync b).length + (j - (frame cfg.sync b).length) = off + j := by omega
      have hfl : (frameHead b).length ≤ (frame cfg.sync b).length := by simp [frame]
      rw [e] at hr1 hr2 hr3
      refine ⟨r, fun h => hr1 (h.resolve_left (by omega)), fun h => hr2 (fun h' => h (Or.inr h')), fun idx => ?_⟩
      rw [take_append_ge (by omega), readBlocks_frame cfg b hb hs, if_pos (by omega)]
      simp only [hr3, thenOut_handOver_append]

abbrev cfgOf (X : Ext α) (sel : CodecSel) (rc : RecCodec α) (H : Header) (cb : Nat → Option ε) : Cfg α ε :=
  { decomp := decompress X sel, decode := rc.decode, sync := H.sync, cb := cb }

/-- `hdr` are bytes the reader accepts as the header `H`, which selects codec `sel` and whose schema
builds the record decoder `rc`. -/
structure ValidHeader (X : Ext α) (fuel : Nat) (hdr : Bytes) (H : Header) (sel : CodecSel) (rc : RecCodec α) : Prop where
  header : Accepts (readFileHeader fuel) hdr H
  sync16 : H.sync.length = 16
  codec : selectCodec H.meta = some sel
  schema : ∃ js, metaGet H.meta kSchema = some js ∧ X.build js = some rc

/-- the file meant is `hdr ++ body H.sync bl` -/
structure ValidFile (X : Ext α) (fuel : Nat) (hdr : Bytes) (H : Header) (sel : CodecSel) (rc : RecCodec α)
    (bl : List (Blk α)) : Prop extends ValidHeader X fuel hdr H sel rc where
  blocks : ∀ b ∈ bl, GoodBlk (decompress X sel) rc.decode b
  fuel : bl.length < fuel

theorem readFile_header {X : Ext α} {fuel : Nat} {hdr : Bytes} {H : Header} {sel : CodecSel} {rc : RecCodec α}
    (hv : ValidHeader X fuel hdr H sel rc) (cb : Nat → Option ε) (rest : Bytes) :
    readFile X fuel cb (hdr ++ rest) = readBlocks (cfgOf X sel rc H cb) fuel rest 0 := by
  obtain ⟨js, h1, h2⟩ := hv.schema
  unfold readFile
  rw [hv.header.1 rest]
  simp only [hv.codec, h1, h2]

/-- `f` is the step budget left for `Y`. -/
theorem readFile_body {X : Ext α} {fuel : Nat} {hdr : Bytes} {H : Header} {sel : CodecSel} {rc : RecCodec α}
    (hv : ValidHeader X fuel hdr H sel rc) (cb : Nat → Option ε) (pre : List (Blk α))
    (hpre : ∀ b ∈ pre, GoodBlk (decompress X sel) rc.decode b) {f : Nat} (hfuel : fuel = f + pre.length) (Y : Bytes) :
    readFile X fuel cb (hdr ++ (body H.sync pre ++ Y)) =
      thenOut (handOver cb (allVals pre) 0) (fun n => readBlocks (cfgOf X sel rc H cb) f Y n) := by
  have h := readBlocks_body (cfgOf X sel rc H cb) hv.sync16 pre f 0 Y hpre
  simp only [Nat.zero_add] at h
  rw [readFile_header hv cb, hfuel]
  exact h

theorem readFile_valid {X : Ext α} {fuel : Nat} {hdr : Bytes} {H : Header} {sel : CodecSel} {rc : RecCodec α} {bl : List (Blk α)}
    (hv : ValidFile X fuel hdr H sel rc bl) (cb : Nat → Option ε) :
    readFile X fuel cb (hdr ++ body H.sync bl) = thenOut (handOver cb (allVals bl) 0) (fun _ => ⟨[], .ok⟩) := by
  have h := readFile_body hv.toValidHeader cb bl hv.blocks (f := fuel - bl.length - 1 + 1) (by have := hv.fuel; omega) []
  simpa [readBlocks_nil] using h

/-- a block of exactly decoded records, stored as `compress` of their encodings -/
def blkOfRecs (compress : Bytes → Bytes) (recs : List (α × Bytes)) : Blk α :=
  { recs := recs, junk := [], payload := compress (recs.map (·.2)).flatten }

theorem validFile_of_parts {X : Ext α} {fuel : Nat} {hdr : Bytes} {H : Header} {sel : CodecSel} {rc : RecCodec α}
    (hh : ValidHeader X fuel hdr H sel rc) (compress : Bytes → Bytes)
    (hcomp : ∀ x, decompress X sel (compress x) = .ok x) (part : List (List (α × Bytes)))
    (hexact : ∀ blk ∈ part, ∀ ve ∈ blk, ∀ rest, rc.decode (ve.2 ++ rest) = .ok (ve.1, rest))
    (hsmall : ∀ blk ∈ part, (compress (blk.map (·.2)).flatten).length ≤ maxLen)
    (hcount : ∀ blk ∈ part, blk.length < 2 ^ 63) (hfuel : part.length < fuel) :
    ValidFile X fuel hdr H sel rc (part.map (blkOfRecs compress)) :=
  { toValidHeader := hh
    blocks := by
      intro b hb
      obtain ⟨blk, hblk, rfl⟩ := List.mem_map.mp hb
      exact ⟨by simpa [blkOfRecs, Blk.data] using hcomp _, hexact blk hblk, hsmall blk hblk, hcount blk hblk⟩
    fuel := by simpa using hfuel }

theorem allVals_blkOfRecs (compress : Bytes → Bytes) (part : List (List (α × Bytes))) :
    allVals (part.map (blkOfRecs compress)) = part.flatten.map (·.1) := by
  induction part with
  | nil => rfl
  | cons b bs ih => rw [List.map_cons, allVals_cons, ih]; simp [blkOfRecs, Blk.vals]

theorem readFile_take {X : Ext α} {fuel : Nat} {hdr : Bytes} {H : Header} {sel : CodecSel} {rc : RecCodec α} {bl : List (Blk α)}
    (hv : ValidFile X fuel hdr H sel rc bl) (cb : Nat → Option ε) (k : Nat) (hk : k ≤ (hdr ++ body H.sync bl).length) :
    ∃ r : Res ε, (k ∈ boundaries H.sync hdr.length bl → r = .ok) ∧ (k ∉ boundaries H.sync hdr.length bl → ∃ e, r = .err e) ∧
      readFile X fuel cb ((hdr ++ body H.sync bl).take k) =
        thenOut (handOver cb (completeVals H.sync hdr.length bl k) 0) (fun _ => ⟨[], r⟩) := by
  by_cases hlt : k < hdr.length
  · -- the cut falls inside the header
    obtain ⟨e, he⟩ := hv.header.2 k hlt
    have hnb : k ∉ boundaries H.sync hdr.length bl := fun h => by
      have := boundaries_ge h; omega
    refine ⟨.err e, fun h => absurd h hnb, fun _ => ⟨e, rfl⟩, ?_⟩
    rw [List.take_append_of_le_length (Nat.le_of_lt hlt), completeVals_before H.sync bl hdr.length k (by omega)]
    unfold readFile; rw [he]
    rfl
  · have hge : hdr.length ≤ k := by omega
    obtain ⟨r, h1, h2, h3⟩ := readBlocks_take (cfgOf X sel rc H cb) hv.sync16 bl fuel hdr.length (k - hdr.length)
      hv.blocks hv.fuel (by show k - hdr.length ≤ (body H.sync bl).length; simp only [List.length_append] at hk; omega)
    rw [Nat.add_sub_cancel' hge] at h1 h2 h3
    refine ⟨r, h1, h2, ?_⟩
    rw [take_append_ge hge, readFile_header hv.toValidHeader cb]
    exact h3 0

/-! ### Panics and the step budget -/

/-- the record decoder returns a value or an error on every input (assumed by `C07.no_panic`, established nowhere) -/
def Tame (decode : Bytes → Outcome (α × Bytes)) : Prop := ∀ bs, (∃ r, decode bs = .ok r) ∨ decode bs = .err

def Step.Total {β : Type} : Step β → Prop
  | .panic _ => False
  | .fuel => False
  | _ => True

/-- A panic only if `P`, out of fuel only if `F`. `C07.no_panic` assumes tame decoders and any budget,
`C07.fuel_enough` a budget above the input length and any decoder: with `P` := "some decoder is not
tame" and `F` := "the budget is not above the input length" both are read off one walk of the loop. -/
def Res.Only (P F : Prop) : Res ε → Prop
  | .panic _ => P
  | .fuel => F
  | _ => True

theorem Res.Only.mono {P P' F F' : Prop} {r : Res ε} (h : r.Only P F) (hP : P → P') (hF : F → F') : r.Only P' F' := by
  cases r with
  | panic k => exact hP h
  | fuel => exact hF h
  | _ => trivial

theorem Res.Only.ne_panic {P F : Prop} {r : Res ε} (h : r.Only P F) (hP : ¬ P) (k : PanicKind) : r ≠ .panic k := by
  intro e; rw [e] at h; exact hP h

theorem Res.Only.ne_fuel {P F : Prop} {r : Res ε} (h : r.Only P F) (hF : ¬ F) : r ≠ .fuel := by
  intro e; rw [e] at h; exact hF h

/-- `decompress` never panics: the length guard protects the two slice expressions. -/
theorem decompress_total (X : Ext α) (sel : CodecSel) (c : Bytes) : (decompress X sel c).Total := by
  cases sel with
  | null => trivial
  | deflate => simp only [decompress]; split <;> trivial
  | snappy =>
    simp only [decompress]
    split
    · trivial
    · rename_i h
      have : 4 ≤ c.length := by omega
      simp only [this, if_true]
      split
      · trivial
      · split <;> trivial

theorem decompress_no_panic (X : Ext α) (sel : CodecSel) (c : Bytes) (k : PanicKind) : decompress X sel c ≠ .panic k := by
  intro e; have h := decompress_total X sel c; rw [e] at h; exact h

theorem deliver_only (decode : Bytes → Outcome (α × Bytes)) (cb : Nat → Option ε) :
    ∀ {n : Nat} {buf : Bytes} {idx : Nat} {res : Res ε}, (deliver decode cb n buf idx).2 = some res →
      res.Only (¬ Tame decode) False := by
  intro n
  induction n with
  | zero => intro buf idx res h; simp [deliver] at h
  | succ n ih =>
    intro buf idx res h
    have bad : (∀ r, decode buf ≠ .ok r) → decode buf ≠ .err → ¬ Tame decode :=
      fun h1 h2 ht => (ht buf).elim (fun ⟨r, hr⟩ => h1 r hr) h2
    simp only [deliver] at h
    split at h
    · split at h
      · cases h; trivial
      · exact ih h
    · cases h; trivial
    · cases h; exact bad (by simp [*]) (by simp [*])
    · cases h; exact bad (by simp [*]) (by simp [*])
    · cases h; exact bad (by simp [*]) (by simp [*])

theorem readBlocks_only (cfg : Cfg α ε) (hd : ∀ c, (cfg.decomp c).Total) :
    ∀ (fuel : Nat) (bs : Bytes) (idx : Nat), (readBlocks cfg fuel bs idx).res.Only (¬ Tame cfg.decode) (fuel ≤ bs.length) := by
  intro fuel
  induction fuel with
  | zero => intro bs idx; exact Nat.zero_le _
  | succ fuel ih =>
    intro bs idx
    rcases blockHead_cases bs with h | ⟨e, h⟩ | ⟨count, comp, r3, h, l1⟩ <;> simp only [readBlocks, h]
    · trivial
    · trivial
    · unfold blockTail
      have hdc := hd comp
      split
      · trivial
      · rename_i h; rw [h] at hdc; exact hdc.elim
      · rename_i h; rw [h] at hdc; exact hdc.elim
      · split
        · rename_i hdl
          exact (deliver_only cfg.decode cfg.cb (congrArg Prod.snd hdl)).mono id False.elim
        · split
          · trivial
          · rename_i sig r4 hs
            have l2 := readFull_exact.length_le hs
            split
            · trivial
            · exact (ih r4 _).mono id (by omega)

theorem readFile_only (X : Ext α) (fuel : Nat) (cb : Nat → Option ε) (bs : Bytes) :
    (readFile X fuel cb bs).res.Only (¬ ∀ js rc, X.build js = some rc → Tame rc.decode) (fuel ≤ bs.length) := by
  have hh := readFileHeader_shrinks fuel bs
  unfold readFile
  split
  · trivial
  · rename_i h; exact absurd h (hh.ne_panic _)
  · rename_i h; rw [h] at hh; exact hh
  · rename_i H rest h
    have l1 := hh.length h
    split
    · trivial
    · split
      · trivial
      · split
        · trivial
        · rename_i rc hrc
          exact (readBlocks_only _ (decompress_total X _) fuel rest 0).mono
            (fun hnt hall => hnt (hall _ _ hrc)) (by omega)

end

end Avro.File
