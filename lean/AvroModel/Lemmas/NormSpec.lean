import AvroModel.Lemmas.NormForm
import AvroModel.Lemmas.BuildSteps
/-!
# The codec-directed normal form against the type-directed `normSpecD` (C01)

`normCodec` is what the codec model reads back; `normSpecD` (Sem.lean) is the oracle of the differential
end-to-end check: the documented normalisations (`dev = 0`) plus the recorded deviations D27 / D30 / D32
(`dev = 7`). Three corners with their concrete witnesses, then the agreement of the two on the fragment
on which `fieldCodec` is defined (`normSpec_agrees`).
-/
namespace Avro

/-- the codec registry after `time.RegisterCodecs` / `null.RegisterCodecs`, no user registrations -/
def libReg : Reg := { lib := true, custom := fun _ => none }

/-- the codec the library builds for Go type `T`: generated schema, then `buildCodec` (as the
end-to-end driver does) -/
def builtCodec (T : GoType) : Except String Codec :=
  match schemaForType SReg.empty TEnv.empty 100 [] T with
  | .ok s => buildCodec libReg 100 s (some T) false
  | _ => .error "schema generation"

section
variable (env : Env)

/-- `struct { F **[]int64 }` -/
def tPP : GoType := .struct "S" "main" [.mk "F" true "" "" (.ptr (.ptr (.slice (.int 64))))]
def cPP : Codec := .record [.ptr none] [.pointer (.pointer (.array (.int 64 false) false))] [some 0]
theorem cPP_built : builtCodec tPP = .ok cPP := by rfl

/-- **nil `**[]T`**: `S{F: nil}` with `F **[]int64` is written as the empty array (the schema of
`**[]T` is the plain array) and read back as a pointer to a pointer to the empty slice. The oracle
identifies a nil pointer anywhere in a pointer chain to a slice or map with the chain to the empty
collection (not for `*[]T` only). -/
theorem nil_ptr_ptr_slice :
    toAvro env (omits env) 10 cPP (.struct [.ptr none]) = some (.record [.array []]) ∧
    ofAvro env 10 cPP (.record [.array []]) (Codec.zero env cPP)
      = .ok (.struct [.ptr (some (.ptr (some (.slice []))))]) ∧
    normCodec env 10 cPP (.struct [.ptr none]) = .struct [.ptr (some (.ptr (some (.slice []))))] ∧
    normSpec 10 tPP false (.struct [.ptr none]) = .struct [.ptr (some (.ptr (some (.slice []))))] ∧
    normSpec 10 tPP false (.struct [.ptr (some (.ptr (some (.slice []))))])
      = .struct [.ptr (some (.ptr (some (.slice []))))] := by
  refine ⟨by rfl, by rfl, by rfl, by rfl, by rfl⟩

/-- `struct { F **[]int64 "json:,omitempty" }` -/
def tPPo : GoType := .struct "S" "main" [.mk "F" true ",omitempty" "" (.ptr (.ptr (.slice (.int 64))))]
def cPPo : Codec :=
  .record [.ptr none] [.unionOne (.pointer (.pointer (.array (.int 64 false) false))) 1] [some 0]
theorem cPPo_built : builtCodec tPPo = .ok cPPo := by rfl

/-- **omitempty `**[]T`, inner nil**: with `omitempty` the field schema is `["null", array]`;
`S{F: &nilPtr}` (outer pointer set, inner nil) is omitted (`PointerCodec.Omit` looks through the
pointer chain), written as null and read back as `F == nil`. Both normalise to `&&[]int64{}`
(the D30 clause is not involved: it is restricted to chains that do not end in a slice or map). -/
theorem omitempty_ptr_ptr_slice :
    toAvro env (omits env) 10 cPPo (.struct [.ptr (some (.ptr none))]) = some (.record [.union 0 .null]) ∧
    ofAvro env 10 cPPo (.record [.union 0 .null]) (Codec.zero env cPPo) = .ok (.struct [.ptr none]) ∧
    normCodec env 10 cPPo (.struct [.ptr (some (.ptr none))]) = .struct [.ptr none] ∧
    normSpec 10 tPPo false (.struct [.ptr none]) = .struct [.ptr (some (.ptr (some (.slice []))))] ∧
    normSpec 10 tPPo false (.struct [.ptr (some (.ptr none))])
      = .struct [.ptr (some (.ptr (some (.slice []))))] := by
  refine ⟨by rfl, by rfl, by rfl, by rfl, by rfl⟩

/-- `struct { T time.Time }` -/
def tTime : GoType := .struct "S" "main" [.mk "T" true "" "" .time]
def cTime : Codec := .record [.time TimeVal.zero] [.unionOne .timeString 1] [some 0]
theorem cTime_built : builtCodec tTime = .ok cTime := by rfl

/-- the zero instant (0001-01-01T00:00:00Z) shown in the zone UTC+1: `IsZero()` holds -/
def zeroPlus1 : TimeVal := ⟨-62135596800, 0, 3600⟩

/-- **Known finding D32 (zero instant in a non-UTC zone)**: the schema of `time.Time` is
`["null","string"]` and the codec omits a time exactly when `IsZero()`, which ignores the zone.
`time.Time{}.In(UTC+1)` is written as null and read back as `time.Time{}` (UTC): same instant,
different UTC offset, so "times compare by instant and UTC offset" fails for the documented
normalisations (`normSpec`); bit 2 of `dev` records the deviation. -/
theorem zero_time_offset_counterexample :
    toAvro env (omits env) 10 cTime (.struct [.time zeroPlus1]) = some (.record [.union 0 .null]) ∧
    ofAvro env 10 cTime (.record [.union 0 .null]) (Codec.zero env cTime) = .ok (.struct [.time TimeVal.zero]) ∧
    normCodec env 10 cTime (.struct [.time zeroPlus1]) = .struct [.time TimeVal.zero] ∧
    normSpec 10 tTime false (.struct [.time zeroPlus1]) = .struct [.time zeroPlus1] ∧
    normSpecD 3 10 tTime false (.struct [.time zeroPlus1]) = .struct [.time zeroPlus1] ∧
    normSpecD 4 10 tTime false (.struct [.time zeroPlus1]) = .struct [.time TimeVal.zero] ∧
    zeroPlus1 ≠ TimeVal.zero := by
  refine ⟨by rfl, by rfl, by rfl, by rfl, by rfl, by rfl, by decide⟩

end

/-- the generated schema of the type is a nullable union already -/
def unionTyped : GoType → Bool
  | .time | .nullT _ => true
  | .ptr e => !e.collChain
  | _ => false

/-- the element type is `byte` itself -/
def isU8n : GoType → Bool
  | .uint 8 => true
  | _ => false

def isStr : GoType → Bool
  | .string => true
  | _ => false

def allSome {α : Type} : List (Option α) → Option (List α)
  | [] => some []
  | none :: _ => none
  | some a :: r => (allSome r).map (a :: ·)

def nodupB : List String → Bool
  | [] => true
  | a :: r => !r.contains a && nodupB r

/-- the struct fields that are encoded: exported and not excluded by a `json:"-"` / `bq:"-"` tag
(`nameForField f ≠ "-"`); the others have no schema field and no codec -/
def encFields (fs : List GoField) : List GoField := fs.filter fun f => nameForField f != "-"

/-- the struct field index each record field is read into (`recordCodec`, record.go): the positions of
the encoded fields, counted from `i` -/
def targetsFrom : Nat → List GoField → List (Option Nat)
  | _, [] => []
  | i, f :: fs => if nameForField f != "-" then some i :: targetsFrom (i + 1) fs else targetsFrom (i + 1) fs

/-- every field is encoded (exported, not named "-") -/
def allEnc (fs : List GoField) : Bool := (fs.map nameForField).all (· != "-")

/-- the Avro names of the encoded fields are pairwise distinct -/
def structOk (fs : List GoField) : Bool := nodupB ((encFields fs).map nameForField)

mutual
/-- the codec for the non-union part of the generated schema of `T`
(`buildCodec u (some T) oe` with `u` the schema of `T` without its nullable wrapper).
The fragment: bool, int16/32/64, float32/64, string, `[]byte`, slices, string-keyed maps, pointers,
structs whose encoded fields have distinct names (unexported fields and fields tagged "-" are
skipped: no schema field, no codec, no target), `time.Time`, `null.*`. -/
def bareCodec : Nat → GoType → Bool → Option Codec
  | 0, _, _ => none
  | n + 1, T, oe =>
    match T with
    | .bool => some (.bool oe)
    | .int w => if w = 16 ∨ w = 32 ∨ w = 64 then some (.int w oe) else none
    | .float32 => some (.f32double oe)
    | .float64 => some (.double oe)
    | .string => some (.string oe)
    | .slice e =>
      if isU8n e then some (.bytes oe)
      else (fieldCodec n e false).map (.array · oe)
    | .map k v => if isStr k then (fieldCodec n v false).map (.map · oe) else none
    | .ptr e => (bareCodec n e false).map .pointer
    | .struct _ _ fs =>
      if structOk fs then
        (allSome ((encFields fs).map fun f => fieldCodec n f.type (omitEmptyTag f.jsonTag))).map fun cs =>
          .record (zeroFields fs) cs (targetsFrom 0 fs)
      else none
    | .time => some .timeString
    | .nullT k => some (.nullw (match k with | .float => .double | k => k))
    | _ => none

/-- the codec for a struct field (or slice element, map value: `oe = false`) of type `T`:
`buildCodec (omitWrap oe (schema of T)) (some T) oe` -/
def fieldCodec : Nat → GoType → Bool → Option Codec
  | 0, _, _ => none
  | n + 1, T, oe =>
    if unionTyped T then (bareCodec n T oe).map wrapU
    else if oe then (bareCodec n T true).map wrapU
    else bareCodec n T false
end

/-! the tie to the builder model, on a type that exercises every case of the fragment -/

def tBig : GoType :=
  .struct "Big" "example.com/pkg" [
    .mk "A" true "" "" .bool, .mk "B" true "b,omitempty" "" (.int 32), .mk "C" true ",omitempty" "" .float32,
    .mk "D" true "" "" .float64, .mk "E" true ",omitempty" "" .string, .mk "F" true "" "" (.slice (.uint 8)),
    .mk "G" true ",omitempty" "" (.slice (.ptr .string)), .mk "H" true "" "" (.map .string (.slice (.int 64))),
    .mk "I" true "" "" (.ptr (.slice .float64)), .mk "J" true ",omitempty" "" (.ptr (.map .string .bool)),
    .mk "K" true "" "" (.ptr (.ptr (.int 16))), .mk "L" true "" "" .time, .mk "M" true ",omitempty" "" (.ptr .time),
    .mk "N" true "" "" (.nullT .float), .mk "O" true "" "" (.ptr (.nullT .string)),
    .mk "P" true ",omitempty" "" (.struct "In" "main" [.mk "X" true "" "" (.ptr (.ptr (.ptr .string)))]),
    .mk "Q" true ",omitempty" "" (.ptr (.ptr (.slice .time))), .mk "R" true "" "" (.ptr (.ptr (.map .string (.nullT .time))))]

def TypedFields (P : GoType → GoVal → Prop) : List GoField → List GoVal → Prop
  | [], [] => True
  | f :: fs, g :: gs => P f.type g ∧ TypedFields P fs gs
  | _, _ => False

def nullInnerTyped : NullKind → GoVal → Prop
  | .int, .int _ => True
  | .bool, .bool _ => True
  | .double, .f64 _ => True
  | .float, .f64 _ => True
  | .string, .str _ => True
  | .time, .time t => t.Printable
  | _, _ => False

/-- `Typed M T g`: `g` is a value of Go type `T` (the budget `M` bounds its depth). Beyond shape:
a float32 is not a signalling NaN (the float32→float64→float32 conversions would quiet it), a map has
one value per key, times are printable (RFC 3339 can express them), every field of a struct is
encoded (a skipped field is not written and reads back as its zero value). -/
def Typed : Nat → GoType → GoVal → Prop
  | 0, _, _ => False
  | n + 1, T, g =>
    match T, g with
    | .bool, .bool _ => True
    | .int _, .int _ => True
    | .float32, .f32 b => ¬ SNaN32 b
    | .float64, .f64 _ => True
    | .string, .str _ => True
    | .slice e, .bytes _ => isU8n e = true
    | .slice e, .slice items => isU8n e = false ∧ ∀ x ∈ items, Typed n e x
    | .map _ v, .map _ ks vs => ks.length = vs.length ∧ ∀ x ∈ vs, Typed n v x
    | .ptr _, .ptr none => True
    | .ptr e, .ptr (some x) => Typed n e x
    | .struct _ _ fs, .struct gs => allEnc fs = true ∧ TypedFields (Typed n) fs gs
    | .time, .time t => t.Printable
    | .nullT k, .nullw _ inner => nullInnerTyped k inner
    | _, _ => False

/-- the `.ptr (some x)` clause of `normSpecD`, with `x'` the normalised pointee. Bits of `dev`, as in
`normSpecD`: bit 0 = D27 (invalid `null.*` behind a pointer comes back valid), bit 1 = D30 (`**T` with a
nil inner pointer comes back as a nil outer pointer), bit 2 = D32 (zero instant in a non-UTC zone). -/
def ptrClause (dev : Nat) (e : GoType) (x' x : GoVal) : GoVal :=
  match e.strip, x', x with
  | .ptr _, .ptr none, _ => if dev / 2 % 2 == 1 && !e.collChain then .ptr none else .ptr (some x')
  | .nullT _, _, .nullw false p => if dev % 2 == 1 then .ptr (some (.nullw true p)) else .ptr (some x')
  | .time, _, _ => .ptr (some x)
  | _, _, _ => .ptr (some x')

theorem normSpecD_ptr_some (d n : Nat) (e : GoType) (oe : Bool) (x : GoVal) :
    normSpecD d (n + 1) (.ptr e) oe (.ptr (some x)) = ptrClause d e (normSpecD d n e false x) x := by
  simp only [normSpecD, GoType.strip, ptrClause]
  rfl

theorem normSpecD_ptr_none (d n : Nat) (e : GoType) (oe : Bool) :
    normSpecD d (n + 1) (.ptr e) oe (.ptr none) = if e.collChain then .ptr (some e.emptyChain) else .ptr none := by
  simp only [normSpecD, GoType.strip]

/-- what the pointer clause puts behind the pointer: the D27 adjustment (an invalid wrapper behind a
pointer comes back valid, with its payload) and times behind a pointer as they are -/
def adj (e : GoType) (x' x : GoVal) : GoVal :=
  match e, x with
  | .nullT _, .nullw false p => .nullw true p
  | .time, x => x
  | _, _ => x'

theorem ptrClause_ptr_ne {d : Nat} {e2 : GoType} {x' x : GoVal} (h : x' ≠ .ptr none) :
    ptrClause d (.ptr e2) x' x = .ptr (some x') := by
  unfold ptrClause
  simp only [GoType.strip]
  split
  next => exact absurd rfl h      -- `x'` is not nil
  next heq => cases heq           -- `.ptr e2` is not `null.*`
  next heq => cases heq           -- … nor `time.Time`
  next => rfl

theorem ptrClause_ptr_nil {d : Nat} (hd : (d / 2 % 2 == 1) = true) (e2 : GoType) (x : GoVal) :
    ptrClause d (.ptr e2) (.ptr none) x
      = if (GoType.ptr e2).collChain then .ptr (some (.ptr none)) else .ptr none := by
  unfold ptrClause
  simp only [GoType.strip, hd]
  cases (GoType.ptr e2).collChain <;> simp

theorem bareCodec_succ {N : Nat} {e : GoType} {oe : Bool} {c : Codec} (h : bareCodec N e oe = some c) :
    ∃ k, N = k + 1 := by
  cases N with
  | zero => simp [bareCodec] at h
  | succ k => exact ⟨k, rfl⟩

theorem ptrClause_emptyChain {d : Nat} {e : GoType} {x : GoVal} (h : e.collChain = true) :
    ptrClause d e e.emptyChain x = .ptr (some e.emptyChain) := by
  cases e <;> simp [GoType.collChain] at h <;> simp [ptrClause, GoType.strip, GoType.emptyChain]

theorem bareCodec_slice (n : Nat) (e : GoType) (oe : Bool) :
    bareCodec (n + 1) (.slice e) oe = if isU8n e then some (.bytes oe) else (fieldCodec n e false).map (.array · oe) := by
  simp only [bareCodec]
theorem bareCodec_map (n : Nat) (k v : GoType) (oe : Bool) :
    bareCodec (n + 1) (.map k v) oe = if isStr k then (fieldCodec n v false).map (.map · oe) else none := by
  simp only [bareCodec]
theorem bareCodec_ptr (n : Nat) (e : GoType) (oe : Bool) :
    bareCodec (n + 1) (.ptr e) oe = (bareCodec n e false).map .pointer := by
  simp only [bareCodec]
theorem bareCodec_struct (n : Nat) (nm pkg : String) (fs : List GoField) (oe : Bool) :
    bareCodec (n + 1) (.struct nm pkg fs) oe =
      if structOk fs then
        (allSome ((encFields fs).map fun f => fieldCodec n f.type (omitEmptyTag f.jsonTag))).map fun cs =>
          .record (zeroFields fs) cs (targetsFrom 0 fs)
      else none := by
  simp only [bareCodec]

theorem isU8n_eq {e : GoType} (h : isU8n e = true) : e = .uint 8 := by
  unfold isU8n at h; split at h <;> first | rfl | cases h

theorem collChain_slice (e : GoType) : (GoType.slice e).collChain = !isU8n e.strip := by
  simp only [GoType.collChain]; unfold isU8n; rfl

theorem not_u8_strip {e : GoType} (h : isU8n e = false) (hs : e.strip = e) : (e.strip matches .uint 8) = false := by
  rw [hs]; exact h

theorem isStr_eq {k : GoType} (h : isStr k = true) : k = .string := by
  cases k <;> first | rfl | cases h

/-- rule induction over the defined values of `bareCodec` / `fieldCodec`, one case per kind of the fragment
and one per branch of `fieldCodec`; the undefined cases are discharged here, once -/
theorem codec_induct {P Q : Nat → GoType → Bool → Codec → Prop}
    (bool : ∀ n oe, P (n + 1) .bool oe (.bool oe))
    (int : ∀ n oe w, w = 16 ∨ w = 32 ∨ w = 64 → P (n + 1) (.int w) oe (.int w oe))
    (float32 : ∀ n oe, P (n + 1) .float32 oe (.f32double oe))
    (float64 : ∀ n oe, P (n + 1) .float64 oe (.double oe))
    (string : ∀ n oe, P (n + 1) .string oe (.string oe))
    (bytes : ∀ n oe, P (n + 1) (.slice (.uint 8)) oe (.bytes oe))
    (slice : ∀ n oe e ci, isU8n e = false → fieldCodec n e false = some ci → Q n e false ci →
      P (n + 1) (.slice e) oe (.array ci oe))
    (map : ∀ n oe v ci, fieldCodec n v false = some ci → Q n v false ci → P (n + 1) (.map .string v) oe (.map ci oe))
    (ptr : ∀ n oe e ce, bareCodec n e false = some ce → P n e false ce → P (n + 1) (.ptr e) oe (.pointer ce))
    (struct : ∀ n oe nm pkg fs cs, structOk fs = true →
      allSome ((encFields fs).map fun f => fieldCodec n f.type (omitEmptyTag f.jsonTag)) = some cs →
      (∀ (f : GoField) c, fieldCodec n f.type (omitEmptyTag f.jsonTag) = some c → Q n f.type (omitEmptyTag f.jsonTag) c) →
      P (n + 1) (.struct nm pkg fs) oe (.record (zeroFields fs) cs (targetsFrom 0 fs)))
    (time : ∀ n oe, P (n + 1) .time oe .timeString)
    (nullT : ∀ n oe k, P (n + 1) (.nullT k) oe (.nullw (match k with | .float => .double | k => k)))
    (unionTy : ∀ n T oe cb, unionTyped T = true → bareCodec n T oe = some cb → P n T oe cb → Q (n + 1) T oe (wrapU cb))
    (omitempty : ∀ n T cb, unionTyped T = false → bareCodec n T true = some cb → P n T true cb → Q (n + 1) T true (wrapU cb))
    (plain : ∀ n T cb, unionTyped T = false → bareCodec n T false = some cb → P n T false cb → Q (n + 1) T false cb) :
    (∀ N T oe cb, bareCodec N T oe = some cb → P N T oe cb) ∧ ∀ N T oe c, fieldCodec N T oe = some c → Q N T oe c := by
  apply bareCodec.mutual_induct (motive_1 := fun N T oe => ∀ cb, bareCodec N T oe = some cb → P N T oe cb)
    (motive_2 := fun N T oe => ∀ c, fieldCodec N T oe = some c → Q N T oe c)
  -- the clauses of `bareCodec` (1–17) and `fieldCodec` (18–21), in their order; 1, 4, 11, 14, 17, 18: undefined
  case case1 | case18 => intro _ _ _ h; cases h
  case case4 => intro n oe w hw cb h; simp only [bareCodec, hw, if_false] at h; cases h
  case case11 => intro n oe k v hk cb h; rw [bareCodec_map, if_neg hk] at h; cases h
  case case14 => intro n oe nm pkg fs hok cb h; rw [bareCodec_struct, if_neg hok] at h; cases h
  case case17 => intros; rename_i h; simp only [bareCodec] at h; cases h
  case case8 =>
    intro n oe e hu cb h
    rw [bareCodec_slice, if_pos hu] at h
    cases h; cases isU8n_eq hu; exact bytes n oe
  case case9 =>
    intro n oe e hu ih cb h
    rw [bareCodec_slice, if_neg hu] at h
    obtain ⟨ci, hci, rfl⟩ := Option.map_eq_some_iff.mp h
    exact slice n oe e ci (by simpa using hu) hci (ih ci hci)
  case case10 =>
    intro n oe k v hk ih cb h
    rw [bareCodec_map, if_pos hk] at h
    obtain ⟨ci, hci, rfl⟩ := Option.map_eq_some_iff.mp h
    cases isStr_eq hk; exact map n oe v ci hci (ih ci hci)
  case case12 =>
    intro n oe e ih cb h
    rw [bareCodec_ptr] at h
    obtain ⟨ce, hce, rfl⟩ := Option.map_eq_some_iff.mp h
    exact ptr n oe e ce hce (ih ce hce)
  case case13 =>
    intro n oe nm pkg fs hok ih cb h
    rw [bareCodec_struct, if_pos hok] at h
    obtain ⟨cs, hcs, rfl⟩ := Option.map_eq_some_iff.mp h
    exact struct n oe nm pkg fs cs hok hcs ih
  case case3 =>
    intro n oe w hw cb h
    simp only [bareCodec, hw, if_true, Option.some.injEq] at h
    cases h; exact int n oe w hw
  case case19 =>
    intro n T oe hu ih c h
    simp only [fieldCodec, hu, if_true] at h
    obtain ⟨cb, hcb, rfl⟩ := Option.map_eq_some_iff.mp h
    exact unionTy n T oe cb hu hcb (ih cb hcb)
  case case20 =>
    intro n T hu ih c h
    have hu' : unionTyped T = false := by simpa using hu
    simp only [fieldCodec, hu', Bool.false_eq_true, if_false, if_true] at h
    obtain ⟨cb, hcb, rfl⟩ := Option.map_eq_some_iff.mp h
    exact omitempty n T cb hu' hcb (ih cb hcb)
  case case21 =>
    intro n T oe hu hoe ih c h
    obtain rfl : oe = false := by simpa using hoe
    have hu' : unionTyped T = false := by simpa using hu
    simp only [fieldCodec, hu', if_false, Bool.false_eq_true] at h
    exact plain n T c hu' h (ih c h)
  case case2 => intro n oe cb h; cases h; exact bool n oe
  case case5 => intro n oe cb h; cases h; exact float32 n oe
  case case6 => intro n oe cb h; cases h; exact float64 n oe
  case case7 => intro n oe cb h; cases h; exact string n oe
  case case15 => intro n oe cb h; cases h; exact time n oe
  case case16 => intro n oe k cb h; cases h; exact nullT n oe k

theorem typed_succ {M : Nat} {T : GoType} {g : GoVal} (h : Typed M T g) : ∃ k, M = k + 1 := by
  cases M with
  | zero => simp [Typed] at h
  | succ k => exact ⟨k, rfl⟩

theorem succ_of_succ_le {N n : Nat} (h : N + 1 ≤ n) : ∃ k, n = k + 1 := ⟨n - 1, by omega⟩

/-- `codec_induct` for a statement about `bareCodec` alone -/
theorem bareCodec_induct {P : Nat → GoType → Bool → Codec → Prop}
    (bool : ∀ n oe, P (n + 1) .bool oe (.bool oe))
    (int : ∀ n oe w, w = 16 ∨ w = 32 ∨ w = 64 → P (n + 1) (.int w) oe (.int w oe))
    (float32 : ∀ n oe, P (n + 1) .float32 oe (.f32double oe))
    (float64 : ∀ n oe, P (n + 1) .float64 oe (.double oe))
    (string : ∀ n oe, P (n + 1) .string oe (.string oe))
    (bytes : ∀ n oe, P (n + 1) (.slice (.uint 8)) oe (.bytes oe))
    (slice : ∀ n oe e ci, isU8n e = false → fieldCodec n e false = some ci → P (n + 1) (.slice e) oe (.array ci oe))
    (map : ∀ n oe v ci, fieldCodec n v false = some ci → P (n + 1) (.map .string v) oe (.map ci oe))
    (ptr : ∀ n oe e ce, bareCodec n e false = some ce → P n e false ce → P (n + 1) (.ptr e) oe (.pointer ce))
    (struct : ∀ n oe nm pkg fs cs, structOk fs = true →
      allSome ((encFields fs).map fun f => fieldCodec n f.type (omitEmptyTag f.jsonTag)) = some cs →
      P (n + 1) (.struct nm pkg fs) oe (.record (zeroFields fs) cs (targetsFrom 0 fs)))
    (time : ∀ n oe, P (n + 1) .time oe .timeString)
    (nullT : ∀ n oe k, P (n + 1) (.nullT k) oe (.nullw (match k with | .float => .double | k => k))) :
    ∀ {N T oe cb}, bareCodec N T oe = some cb → P N T oe cb :=
  fun h => (codec_induct (Q := fun _ _ _ _ => True) bool int float32 float64 string bytes
    (fun n oe e ci hu hci _ => slice n oe e ci hu hci) (fun n oe v ci hci _ => map n oe v ci hci) ptr
    (fun n oe nm pkg fs cs hok hcs _ => struct n oe nm pkg fs cs hok hcs) time nullT
    (fun _ _ _ _ _ _ _ => trivial) (fun _ _ _ _ _ _ => trivial) (fun _ _ _ _ _ _ => trivial)).1 _ _ _ _ h

theorem bareCodec_strip : ∀ {N e oe c}, bareCodec N e oe = some c → e.strip = e := by
  apply bareCodec_induct
  all_goals intros; rfl

theorem bareCodec_isPtr : ∀ {N e oe c}, bareCodec N e oe = some c →
    (isPtr e = true → ∃ c2, c = .pointer c2) ∧ (isPtr e = false → ∀ c2, c ≠ .pointer c2) := by
  apply bareCodec_induct
  case ptr => exact fun _ _ _ ce _ _ => ⟨fun _ => ⟨ce, rfl⟩, nofun⟩
  all_goals intros; exact ⟨nofun, fun _ _ => nofun⟩

/-- the codec of a pointer chain to a slice or map is a pointer chain to an array or map codec, and its `nilForm` is the
type's `emptyChain` up to the nil flag of maps -/
theorem bareCodec_coll : ∀ {N e oe c}, bareCodec N e oe = some c → e.collChain = true →
    IsColl c ∧ ∀ n', N ≤ n' → normSpecD 0 n' e false (nilForm c) = e.emptyChain := by
  apply bareCodec_induct
  case slice =>
    intro n oe e ci _ _ _
    refine ⟨Or.inl ⟨ci, oe, rfl⟩, fun n' hn' => ?_⟩
    obtain ⟨k, rfl⟩ := succ_of_succ_le hn'
    simp [nilForm, normSpecD, GoType.strip, GoType.emptyChain]
  case map =>
    intro n oe v ci _ _
    refine ⟨Or.inr ⟨ci, oe, rfl⟩, fun n' hn' => ?_⟩
    obtain ⟨k, rfl⟩ := succ_of_succ_le hn'
    simp [nilForm, normSpecD, GoType.strip, GoType.emptyChain]
  case ptr =>
    intro n oe e c' _ ih hcc
    replace hcc : e.collChain = true := hcc
    refine ⟨by simpa [IsColl, Codec.stripPtr] using (ih hcc).1, fun n' hn' => ?_⟩
    obtain ⟨k, rfl⟩ := succ_of_succ_le hn'
    rw [nilForm, normSpecD_ptr_some, (ih hcc).2 k (by omega), ptrClause_emptyChain hcc]
    rfl
  all_goals intros; contradiction

theorem ptrClause_zero (e : GoType) (y' y : GoVal) :
    ptrClause 0 e y' y = .ptr (some (match e.strip with | .time => y | _ => y')) := by
  unfold ptrClause
  split <;> simp_all

theorem ptrClause_nonptr {d : Nat} (hd : (d % 2 == 1) = true) (e : GoType) (x' x : GoVal) (hs : e.strip = e)
    (hp : isPtr e = false) : ptrClause d e x' x = .ptr (some (adj e x' x)) := by
  unfold ptrClause
  rw [hs]
  cases e <;> simp [isPtr] at hp <;> try (simp [adj]; done)
  cases x <;> try (simp [adj]; done)
  rename_i valid p
  cases valid <;> simp [adj, hd]


/-! ### records whose targets are `0, 1, 2, …` -/

theorem normFieldsWith_range' (f : Codec → GoVal → GoVal) (gs : List GoVal) :
    ∀ (cs : List Codec) (i0 : Nat) (acc : List GoVal), acc.length = gs.length → gs.length = i0 + cs.length →
      normFieldsWith f cs ((List.range' i0 cs.length).map some) gs acc
        = acc.take i0 ++ List.zipWith f cs (gs.drop i0)
  | [], i0, acc, h1, h2 => by
    simp only [List.length_nil, Nat.add_zero] at h2
    simp [normFieldsWith, List.take_of_length_le (show acc.length ≤ i0 by omega)]
  | c :: cs, i0, acc, h1, h2 => by
    simp only [List.length_cons] at h2
    have hi : i0 < gs.length := by omega
    have hg : gs[i0]? = some gs[i0] := by simp [hi]
    simp only [List.length_cons, List.range'_succ, List.map_cons, normFieldsWith, hg]
    rw [normFieldsWith_range' f gs cs (i0 + 1) _ (by rw [listSet_length, h1]) (by omega),
      listSet_take acc i0 _ (by omega)]
    have hd : gs.drop i0 = gs[i0] :: gs.drop (i0 + 1) := by
      rw [List.drop_eq_getElem_cons hi]
    simp only [List.append_assoc, List.singleton_append, hd, List.zipWith_cons_cons]

theorem normFieldsWith_range (f : Codec → GoVal → GoVal) (cs : List Codec) (gs z : List GoVal)
    (h1 : z.length = gs.length) (h2 : gs.length = cs.length) :
    normFieldsWith f cs ((List.range cs.length).map some) gs z = List.zipWith f cs gs := by
  rw [List.range_eq_range']
  simpa using normFieldsWith_range' f gs cs 0 z h1 (by omega)

theorem allSome_cons_eq_some {α : Type} {x : Option α} {l : List (Option α)} {r : List α} :
    allSome (x :: l) = some r ↔ ∃ a r', x = some a ∧ allSome l = some r' ∧ r = a :: r' := by
  cases x <;> simp [allSome, eq_comm]

theorem allSome_length {α : Type} : ∀ {l : List (Option α)} {r : List α}, allSome l = some r → r.length = l.length
  | [], r, h => by cases h; rfl
  | _ :: l, r, h => by
    obtain ⟨a, r', -, hr', rfl⟩ := allSome_cons_eq_some.mp h
    simp [allSome_length hr']

theorem typedFields_length {P : GoType → GoVal → Prop} : ∀ (fs : List GoField) (gs : List GoVal),
    TypedFields P fs gs → gs.length = fs.length
  | [], [], _ => rfl
  | [], _ :: _, h => by simp [TypedFields] at h
  | _ :: _, [], h => by simp [TypedFields] at h
  | _ :: fs, _ :: gs, h => by simp [typedFields_length fs gs h.2]

theorem zeroFields_length : ∀ fs : List GoField, (zeroFields fs).length = fs.length
  | [] => rfl
  | .mk _ _ _ _ _ :: fs => by simp [zeroFields, zeroFields_length fs]

theorem encFields_all {fs : List GoField} (h : allEnc fs = true) : encFields fs = fs := by
  unfold encFields
  rw [List.filter_eq_self]
  intro f hf
  simp only [allEnc, List.all_map, List.all_eq_true] at h
  exact h f hf

theorem targetsFrom_all : ∀ (fs : List GoField) (i : Nat), allEnc fs = true →
    targetsFrom i fs = (List.range' i fs.length).map some
  | [], _, _ => rfl
  | f :: fs, i, h => by
    have h' : (nameForField f != "-") = true ∧ allEnc fs = true := by
      simpa [allEnc] using h
    simp only [targetsFrom, h'.1, if_true, List.length_cons, List.range'_succ, List.map_cons]
    rw [targetsFrom_all fs (i + 1) h'.2]

theorem zipWith_fields_agree {φ : GoField → Option Codec} {P : GoType → GoVal → Prop}
    {F0 F7 : GoField → GoVal → GoVal} {Nm : Codec → GoVal → GoVal}
    (hp : ∀ f c g, φ f = some c → P f.type g → F0 f (Nm c g) = F7 f g) :
    ∀ {fs : List GoField} {cs : List Codec} {gs : List GoVal}, allSome (fs.map φ) = some cs → TypedFields P fs gs →
      List.zipWith F0 fs (List.zipWith Nm cs gs) = List.zipWith F7 fs gs
  | [], _, _, _, _ => by simp
  | _ :: _, _, [], _, h => by simp [TypedFields] at h
  | f :: fs, cs, g :: gs, ha, ht => by
    obtain ⟨c, cs', hf, hcs', rfl⟩ := allSome_cons_eq_some.mp ha
    simp only [List.zipWith_cons_cons, List.cons.injEq]
    exact ⟨hp f c g hf ht.1, zipWith_fields_agree hp hcs' ht.2⟩

section
variable (env : Env)

theorem omits_ptr_some {N : Nat} {e : GoType} {oe : Bool} {ce : Codec} (h : bareCodec N e oe = some ce)
    (x : GoVal) : omits env (.pointer ce) (.ptr (some x)) = (isPtr e && omits env ce x) := by
  obtain ⟨h1, h2⟩ := bareCodec_isPtr h
  cases hp : isPtr e
  · have := h2 hp
    cases ce <;> first | rfl | exact absurd rfl (this _)
  · obtain ⟨c2, rfl⟩ := h1 hp
    simp [omits]

/-- what the oracle makes of a pointer chain that ends in nil: the chain to the empty collection if it leads to
a slice or map, nil otherwise -/
def GoType.collapsed (T : GoType) : GoVal := if T.collChain then T.emptyChain else .ptr none

theorem GoType.collapsed_ptr (e : GoType) :
    (GoType.ptr e).collapsed = if e.collChain then .ptr (some e.emptyChain) else .ptr none := rfl

/-- what `normCodec_agrees` proves of `bareCodec N T oe = some cb`, under either `omitempty` flag `oe'` of the oracle
(it matters for floats only, and those the codec leaves alone). Not a pointer: agreement up to `adj`. A pointer: the
oracle's value is the collapsed chain if the codec omits the value (it ends in nil), and otherwise what the codec's normal
form normalises to; for a chain to a slice or map the two agree even when it is omitted (a field without `omitempty`). -/
def AgreeBare (N : Nat) (T : GoType) (cb : Codec) : Prop :=
  ∀ g M n n', Typed M T g → N ≤ n → N ≤ n' → ∀ oe',
    (isPtr T = false → normSpecD 0 n' T oe' (normCodec env n cb g) = adj T (normSpecD 7 n' T oe' g) g) ∧
    (isPtr T = true →
      normSpecD 7 n' T oe' g = (if omits env cb g = true then T.collapsed
        else normSpecD 0 n' T oe' (normCodec env n cb g)) ∧
      (T.collChain = true → normSpecD 0 n' T oe' (normCodec env n cb g) = normSpecD 7 n' T oe' g))

/-- … and of `fieldCodec N T oe = some c`: model and oracle agree -/
def AgreeField (N : Nat) (T : GoType) (oe : Bool) (c : Codec) : Prop :=
  ∀ g M n n', Typed M T g → N ≤ n → N ≤ n' →
    normSpecD 0 n' T oe (normCodec env n c g) = normSpecD 7 n' T oe g

theorem norm_ptr_ne_nil {M n n' : Nat} {e2 : GoType} {c2 : Codec} {x : GoVal} {oe : Bool} (ht : Typed M (.ptr e2) x)
    (ho : omits env (.pointer c2) x = false) :
    normSpecD 0 (n' + 1) (.ptr e2) oe (normCodec env (n + 1) (.pointer c2) x) ≠ .ptr none := by
  obtain ⟨M, rfl⟩ := typed_succ ht
  cases x <;> simp only [Typed] at ht
  rename_i tgt
  cases tgt with
  | none => simp [omits] at ho
  | some z => simp [normCodec, normSpecD_ptr_some, ptrClause_zero]

theorem agree_bare_ptr (hlaws : EnvLaws env) (N : Nat) (e : GoType) (ce : Codec) (ih : AgreeBare env N e ce) (g : GoVal) (M n n' : Nat)
    (hce : bareCodec N e false = some ce) (ht : Typed (M + 1) (.ptr e) g) (hn : N ≤ n) (hn' : N ≤ n') (oe' : Bool) :
    normSpecD 7 (n' + 1) (.ptr e) oe' g
      = (if omits env (.pointer ce) g = true then (GoType.ptr e).collapsed
        else normSpecD 0 (n' + 1) (.ptr e) oe' (normCodec env (n + 1) (.pointer ce) g)) ∧
    (e.collChain = true →
      normSpecD 0 (n' + 1) (.ptr e) oe' (normCodec env (n + 1) (.pointer ce) g) = normSpecD 7 (n' + 1) (.ptr e) oe' g) := by
  have hstrip := bareCodec_strip hce
  rw [GoType.collapsed_ptr]
  cases g <;> simp only [Typed] at ht
  rename_i tgt
  cases tgt with
  | none =>
    refine ⟨by simp [omits, normSpecD_ptr_none], fun hcc => ?_⟩
    obtain ⟨h3, h4⟩ := bareCodec_coll hce hcc
    rw [norm_ptr_nil_coll env n ce h3, normSpecD_ptr_some, h4 n' hn', ptrClause_emptyChain hcc, normSpecD_ptr_none]
    simp [hcc]
  | some x =>
    obtain ⟨I0, I1⟩ := ih x M n n' ht hn hn' false
    have hnc : normCodec env (n + 1) (.pointer ce) (.ptr (some x)) = .ptr (some (normCodec env n ce x)) := by
      simp only [normCodec]
    rw [hnc, normSpecD_ptr_some, normSpecD_ptr_some, omits_ptr_some env hce x]
    cases hp : isPtr e
    · -- the innermost pointer is never omitted; `adj` is what the oracle puts behind it
      have key : ptrClause 0 e (normSpecD 0 n' e false (normCodec env n ce x)) (normCodec env n ce x)
          = ptrClause 7 e (normSpecD 7 n' e false x) x := by
        rw [I0 hp, ptrClause_zero, hstrip, ptrClause_nonptr (d := 7) rfl e _ x hstrip hp]
        cases e <;> try rfl
        -- time behind a pointer: kept as it is
        obtain ⟨M, rfl⟩ := typed_succ ht
        cases x <;> simp only [Typed] at ht
        obtain ⟨k, rfl⟩ := bareCodec_succ hce
        simp only [bareCodec, Option.some.injEq] at hce
        subst hce
        obtain ⟨m, rfl⟩ := succ_of_succ_le hn
        simp [normCodec, adj, normTime_printable env hlaws _ ht]
      exact ⟨by simpa using key.symm, fun _ => key⟩
    · obtain ⟨e2, rfl⟩ : ∃ e2, e = .ptr e2 := by cases e <;> simp [isPtr] at hp; exact ⟨_, rfl⟩
      obtain ⟨c2, rfl⟩ := (bareCodec_isPtr hce).1 hp
      obtain ⟨k, rfl⟩ := bareCodec_succ hce
      obtain ⟨n, rfl⟩ := succ_of_succ_le hn
      obtain ⟨n', rfl⟩ := succ_of_succ_le hn'
      obtain ⟨J, JPl⟩ := I1 hp
      unfold GoType.collapsed at J
      simp only [Bool.true_and, ptrClause_zero, GoType.strip]
      by_cases ho : omits env (.pointer c2) x = true
      · -- the pointee ends in nil: so does the pointer
        rw [if_pos ho] at J ⊢
        rw [J]
        by_cases hcc : (GoType.ptr e2).collChain = true
        · simp only [hcc, if_true, ptrClause_emptyChain hcc, true_and]
          exact fun _ => by rw [JPl hcc, J, if_pos hcc]
        · simp only [hcc, Bool.false_eq_true, if_false, false_implies, and_true]
          rw [ptrClause_ptr_nil (d := 7) rfl, if_neg hcc]
      · rw [if_neg ho] at J ⊢
        rw [J, ptrClause_ptr_ne (norm_ptr_ne_nil env ht (by simpa using ho))]
        exact ⟨rfl, fun _ => rfl⟩

theorem norm_unionOne (n : Nat) (cb : Codec) (k : Nat) (g : GoVal) :
    normCodec env (n + 1) (.unionOne cb k) g
      = if omits env cb g = true then Codec.zero env cb else normCodec env n cb g := by
  simp only [normCodec]

theorem unionTyped_ptr (e : GoType) : unionTyped (.ptr e) = !e.collChain := rfl

theorem not_union_ptr {T : GoType} (hu' : unionTyped T = false) (hp : isPtr T = true) : T.collChain = true := by
  cases T <;> simp [isPtr] at hp
  simpa [unionTyped, GoType.collChain] using hu'

theorem adj_not_union {T : GoType} (hu' : unionTyped T = false) (x' g : GoVal) : adj T x' g = x' := by
  cases T <;> simp [unionTyped] at hu' <;> simp [adj]

/-- a pointer field: its codec is `["null", …]` around the pointer codec whether or not the chain ends in a
slice or map (union-typed, or `omitempty`); omitted exactly when the oracle collapses it -/
theorem agree_wrapU_ptr {N : Nat} {e : GoType} {ce : Codec} {g : GoVal} {M n n' : Nat}
    {oe : Bool} (ih : AgreeBare env N (.ptr e) (.pointer ce)) (ht : Typed M (.ptr e) g)
    (hN : N ≤ n) (hN' : N ≤ n' + 1) :
    normSpecD 0 (n' + 1) (.ptr e) oe (normCodec env (n + 1) (wrapU (.pointer ce)) g)
      = normSpecD 7 (n' + 1) (.ptr e) oe g := by
  rw [((ih g M n (n' + 1) ht hN hN' oe).2 rfl).1]
  simp only [wrapU, norm_unionOne]
  by_cases ho : omits env (.pointer ce) g = true
  · simp only [ho, if_true, Codec.zero, normSpecD_ptr_none]; rfl
  · simp only [ho, if_false, Bool.false_eq_true]

/-- an omitted value that is not a pointer normalises like the zero value of its codec -/
theorem omitted_zero : ∀ {N T oe cb}, bareCodec N T oe = some cb → isPtr T = false →
    ∀ g M n', Typed (M + 1) T g → omits env cb g = true →
      normSpecD 0 (n' + 1) T oe (Codec.zero env cb) = normSpecD 7 (n' + 1) T oe g := by
  apply bareCodec_induct
  all_goals
    intros
    rename_i hp g M n' ht ho
  case ptr => cases hp
  case nullT k =>
    cases g <;> simp only [Typed] at ht
    rename_i valid inner
    obtain rfl : valid = false := by simpa [omits] using ho
    cases k <;> simp [Codec.zero, normSpecD, GoType.strip]
  case map =>
    cases g <;> simp only [Typed] at ht
    rename_i nl ks vs
    obtain ⟨-, rfl⟩ : _ ∧ ks = [] := by simpa [omits] using ho
    obtain rfl : vs = [] := List.eq_nil_of_length_eq_zero ht.1.symm
    simp [Codec.zero, normSpecD, GoType.strip]
  -- the scalar kinds, `[]byte`, slices, `time.Time`: `omits` says which value it is; a struct is never omitted
  all_goals
    cases g <;> simp only [Typed] at ht <;> simp [omits] at ho <;>
      simp [ho, Codec.zero, normSpecD, GoType.strip, timeZero_isZero]

/-- behind a pointer the oracle treats `time.Time` and invalid `null.*` wrappers in its own way (`adj`); on a value
that is not omitted this is what it does anyway -/
theorem adj_kept : ∀ {N T oe cb}, bareCodec N T oe = some cb → isPtr T = false →
    ∀ g M n' oe', Typed (M + 1) T g → omits env cb g = false →
      adj T (normSpecD 7 (n' + 1) T oe' g) g = normSpecD 7 (n' + 1) T oe' g := by
  apply bareCodec_induct
  all_goals
    intros
    rename_i hp g M n' oe' ht ho
  case ptr => cases hp
  case time =>
    cases g <;> simp only [Typed] at ht
    simp only [omits] at ho
    simp [adj, normSpecD, GoType.strip, ho]
  case nullT =>
    cases g <;> simp only [Typed] at ht
    obtain rfl : _ = true := by simpa [omits] using ho
    simp [adj]
  all_goals simp [adj]

/-- a field that is not a pointer under `["null", …]` (its type is `time.Time` or `null.*`, or it is tagged
`omitempty`): omitted and read back as the zero value, or written and read back by the bare codec -/
theorem agree_wrap {N : Nat} {T : GoType} {oe : Bool} {cb : Codec} (hcb : bareCodec N T oe = some cb)
    (hp : isPtr T = false) (ih : AgreeBare env N T cb) (g : GoVal) (M n n' : Nat) (ht : Typed (M + 1) T g)
    (hN : N ≤ n) (hN' : N ≤ n' + 1) :
    normSpecD 0 (n' + 1) T oe (normCodec env (n + 1) (wrapU cb) g) = normSpecD 7 (n' + 1) T oe g := by
  have hw : normCodec env (n + 1) (wrapU cb) g
      = if omits env cb g = true then Codec.zero env cb else normCodec env n cb g := by
    -- a string under `["null","string"]` has a codec of its own, which reads back what was written
    cases cb <;> try exact norm_unionOne env n _ 1 g
    obtain ⟨k, rfl⟩ := bareCodec_succ hcb
    cases T <;> simp [bareCodec] at hcb <;> try (split at hcb <;> simp at hcb)
    cases g <;> simp only [Typed] at ht
    obtain ⟨m, rfl⟩ := succ_of_succ_le hN
    rename_i bs
    cases bs <;> simp [wrapU, normCodec, omits, Codec.zero]
  rw [hw]
  by_cases ho : omits env cb g = true
  · rw [if_pos ho]; exact omitted_zero env hcb hp g M n' ht ho
  · rw [if_neg ho, (ih g _ n (n' + 1) ht hN hN' oe).1 hp]
    exact adj_kept env hcb hp g M n' oe ht (by simpa using ho)

theorem normCodec_agrees (hlaws : EnvLaws env) : (∀ N T oe cb, bareCodec N T oe = some cb → AgreeBare env N T cb) ∧
    ∀ N T oe c, fieldCodec N T oe = some c → AgreeField env N T oe c := by
  apply codec_induct
  -- budgets and the value's depth are positive
  all_goals
    intros
    intro g M n n' ht hn hn'
    obtain ⟨M, rfl⟩ := typed_succ ht
    obtain ⟨n, rfl⟩ := succ_of_succ_le hn
    obtain ⟨n', rfl⟩ := succ_of_succ_le hn'
  case unionTy N T oe cb hu hcb ih | omitempty N T cb hu hcb ih =>
    cases hp : isPtr T
    · exact agree_wrap env hcb hp ih g _ n n' ht (by omega) (by omega)
    · obtain ⟨e, rfl⟩ : ∃ e, T = .ptr e := by cases T <;> simp [isPtr] at hp; exact ⟨_, rfl⟩
      obtain ⟨ce, rfl⟩ := (bareCodec_isPtr hcb).1 hp
      exact agree_wrapU_ptr env ih ht (by omega) (by omega)
  case plain N T c hu' _ ih =>
    obtain ⟨I0, I1⟩ := ih g _ (n + 1) (n' + 1) ht (by omega) (by omega) false
    cases hp : isPtr T
    · rw [I0 hp, adj_not_union hu']
    · exact (I1 hp).2 (not_union_ptr hu' hp)
  all_goals intro oe'
  case ptr N _ e ce hce ih =>
    exact ⟨nofun, fun _ => agree_bare_ptr env hlaws N e ce ih g M n n' hce ht (by omega) (by omega) oe'⟩
  -- the other kinds are not pointers
  all_goals (refine ⟨fun hnp => ?_, fun hp => by simp [isPtr] at hp⟩; clear hnp)
  case bytes =>
    cases g <;> simp only [Typed] at ht
    · simp [normCodec, normSpecD, GoType.strip, adj]
    · exact absurd ht.1 (by decide)
  case slice N _ e ci hu hci ih =>
    cases g <;> simp only [Typed] at ht
    · rw [hu] at ht; exact absurd ht (by decide)
    simp only [normCodec, normSpecD, GoType.strip, adj, List.map_map, GoVal.slice.injEq]
    exact List.map_congr_left fun x hx => ih x M n n' (ht.2 x hx) (by omega) (by omega)
  case map N _ v ci hci ih =>
    cases g <;> simp only [Typed] at ht
    simp only [normCodec, normSpecD, GoType.strip, adj, List.map_map, GoVal.map.injEq, true_and]
    exact List.map_congr_left fun x hx => ih x M n n' (ht.2 x hx) (by omega) (by omega)
  case struct N _ nm pkg fs cs hok hcs ih =>
    cases g <;> simp only [Typed] at ht
    rename_i gs
    obtain ⟨henc, ht⟩ := ht
    rw [encFields_all henc] at hcs
    have hl1 := allSome_length hcs
    simp only [List.length_map] at hl1
    have hl2 := typedFields_length fs gs ht
    rw [targetsFrom_all fs 0 henc, ← List.range_eq_range', ← hl1]
    simp only [normCodec, normSpecD, GoType.strip, adj, GoVal.struct.injEq]
    rw [normFieldsWith_range _ cs gs _ (by rw [zeroFields_length, hl2]) (by omega)]
    exact zipWith_fields_agree (fun f c g hc hg => ih f c hc g M n n' hg (by omega) (by omega)) hcs ht
  case time =>
    cases g <;> simp only [Typed] at ht
    simp [normCodec, normSpecD, GoType.strip, adj, normTime_printable env hlaws _ ht]
  case nullT k =>
    cases g <;> simp only [Typed] at ht
    rename_i valid inner
    cases k <;> cases inner <;> simp only [nullInnerTyped] at ht <;>
      cases valid <;> simp [normCodec, normSpecD, GoType.strip, adj]
    all_goals exact normTime_printable env hlaws _ ht
  case float32 =>
    cases g <;> simp only [Typed] at ht
    simp [normCodec, normSpecD, GoType.strip, adj, hlaws.narrow_widen _ ht]
  -- bool, int, float64, string
  all_goals
    cases g <;> simp only [Typed] at ht
    simp [normCodec, normSpecD, GoType.strip, adj]

/-- **Model against oracle**: for a Go type `T` of the fragment (`fieldCodec N T oe = some c`: bool,
int16/32/64, float32/64, string, `[]byte`, slices, string-keyed maps, pointers of any depth, structs
whose fields are all encoded under distinct names and carry arbitrary `omitempty` tags, `time.Time`
with the default string schema, `null.*`), its codec `c` and a well-typed value `g`, what the codec
model reads back (`normCodec … c g`, by `roundTrip`) and the written value agree up to the documented
normalisations and the three recorded deviations D27, D30, D32:
`normSpec T (normCodec c g) = normSpecD 7 T g`.
Excluded: named (`custom`) types, uint/int8/complex/array kinds, structs with clashing names,
non-default time schemas (long / date logical types), `null.Float` under a `float` schema; for those
nothing is claimed. `fieldCodec` is also defined for structs with skipped (unexported or "-") fields,
but `Typed` asks that every field of a struct value is encoded: a skipped field is not written and
reads back as its zero value. That `fieldCodec` is the codec the builder model yields for the
generated schema is proved in general in `Lemmas/TypeCodec.lean` (`built_is_fieldCodec`); the
`example … tBig`, `cPP_built`, … here are instances. -/
theorem normSpec_agrees (hlaws : EnvLaws env) (N M n n' : Nat) (T : GoType) (oe : Bool) (c : Codec) (g : GoVal)
    (hc : fieldCodec N T oe = some c) (ht : Typed M T g) (hn : N ≤ n) (hn' : N ≤ n') :
    normSpec n' T oe (normCodec env n c g) = normSpecD 7 n' T oe g :=
  (normCodec_agrees env hlaws).2 N T oe c hc g M n n' ht hn hn'

end

end Avro
