import AvroModel.Lemmas.ReadLaws
import AvroModel.CodecFor
import AvroModel.Lemmas.Size
import AvroModel.Lemmas.WireInv
import AvroModel.Lemmas.Bytes
/-!
Skipping consumes exactly the bytes of a datum (C04), for every codec the library can build for the
datum's schema, every datum and every writer plan (multi-block and size-prefixed collections included):
with a step budget of at least `readBudget c v` the result is the exact remainder (`skip_budget`, one
induction on the budget through the four `skip` functions), hence at every budget the exact remainder
or out of budget (`skip_okOrFuel`, by `skip_mono`).

`readBudget c v = Codec.sz c + 2 * Value.sz v + 2` depends only on the codec tree and the datum, not
on the writer's plan (every block of an array / map holds at least one item, so the number of blocks
is bounded by the number of items), not on the destination and not on what follows the datum. The same
budget serves `read` (`read_exact`, `read_misfit` in `Lemmas/ReadOk.lean`).
-/
namespace Avro

/-- `2 * v.sz`: each item costs one step of its loop and one of its own codec. `+ 2`: the top call, and the one
call of a leaf codec that `nullw` and `unionNullString` make although their `Codec.sz` is 0. -/
def readBudget (c : Codec) (v : Value) : Nat := c.sz + 2 * v.sz + 2

/-- Trap: in a module that defines `Value.szList` before it, Lean names this definition's `match` auxiliary
after that one (`Value.szList.match_1`), which changes the definition as elaborated. -/
def readBudgetList (c : Codec) : List Value → Nat
  | [] => 0
  | v :: vs => max (readBudget c v) (readBudgetList c vs)

theorem readBudget_le_list {c : Codec} {v : Value} : ∀ {vs : List Value}, v ∈ vs → readBudget c v ≤ readBudgetList c vs
  | [], h => by simp at h
  | w :: ws, h => by
    simp only [List.mem_cons] at h
    simp only [readBudgetList]
    rcases h with rfl | h
    · exact Nat.le_max_left _ _
    · exact Nat.le_trans (readBudget_le_list h) (Nat.le_max_right _ _)

def OkOrFuel {α : Type} (o : Outcome α) (x : α) : Prop := o = .ok x ∨ o = .fuel

theorem OkOrFuel.fuel {α : Type} (x : α) : OkOrFuel (.fuel) x := Or.inr rfl

theorem next_append (a rest : Bytes) : next (a.length : Int) (a ++ rest) = .ok (a, rest) := by
  unfold next
  have h1 : ¬ ((a.length : Int) < 0 ∨ (a.length : Int) > ((a ++ rest).length : Nat)) := by
    simp only [List.length_append]; omega
  have h2 : (0 : Int) ≤ a.length ∧ (a.length : Int).toNat ≤ (a ++ rest).length := by
    simp only [List.length_append]; omega
  rw [if_neg h1, if_pos h2]
  simp

theorem skipN_append (a rest : Bytes) : skipN (a.length : Int) (a ++ rest) = .ok rest := by
  unfold skipN; rw [next_append]

theorem skipN_append' (a rest : Bytes) (n : Int) (h : n = a.length) : skipN n (a ++ rest) = .ok rest := by
  subst h; exact skipN_append a rest

theorem rdVarint_write (v : Int) (hv : inRange 64 v) (rest : Bytes) :
    rdVarint (writeVarint v ++ rest) = .ok (v, rest) := by
  unfold rdVarint; rw [readVarint_writeVarint v hv]

theorem skipVar_write (v : Int) (hv : inRange 64 v) (rest : Bytes) :
    skipVar (writeVarint v ++ rest) = .ok rest := by
  rw [skipVar_eq_bind, rdVarint_write v hv]; rfl

theorem rdVarint_encBytes {b : Bytes} (h : b.length < 2 ^ 63) (rest : Bytes) :
    rdVarint (encBytes b ++ rest) = .ok ((b.length : Int), b ++ rest) := by
  unfold encBytes; rw [List.append_assoc]; exact rdVarint_write _ (inRange_of_nat_lt h) _

theorem skipLen_encBytes {bs : Bytes} (h : bs.length < 2 ^ 63) (rest : Bytes) :
    skipLen (encBytes bs ++ rest) = .ok rest := by
  rw [skipLen_eq_bind, rdVarint_encBytes h]; exact skipN_append bs rest

theorem CodecsFor.length_eq {cs ss} (h : CodecsFor cs ss) : cs.length = ss.length := by
  induction cs generalizing ss with
  | nil => cases h; rfl
  | cons c cs ih => cases h with | cons _ h2 => simp [ih h2]

theorem CodecsFor.get {cs ss} (h : CodecsFor cs ss) : ∀ {i : Nat} {b : ASchema}, ss[i]? = some b → ∃ c, cs[i]? = some c ∧ CodecFor c b := by
  induction cs generalizing ss with
  | nil => cases h; intro i b hb; simp at hb
  | cons c cs ih =>
    cases h with
    | cons h1 h2 =>
      intro i b hb
      cases i with
      | zero => simp at hb; subst hb; exact ⟨c, by simp, h1⟩
      | succ i => simp at hb; obtain ⟨c', hc', hf⟩ := ih h2 hb; exact ⟨c', by simpa using hc', hf⟩

theorem encode_union_rd {cs : List Codec} {ss : List ASchema} (hcs : CodecsFor cs ss) {p : Plan} {v : Value} {bs : Bytes}
    (he : encode p (.union ss) v = some bs) (rest : Bytes) :
    ∃ idx v' p' e c' s', v = .union idx v' ∧ cs[idx]? = some c' ∧ CodecFor c' s' ∧ encode p' s' v' = some e ∧
      rdVarint (bs ++ rest) = .ok ((idx : Int), e ++ rest) ∧ ¬ ((idx : Int) < 0 ∨ (idx : Int) ≥ cs.length) := by
  obtain ⟨bl, idx, v', b, p', e, rfl, rfl, hb, he', hi, rfl⟩ := encode_union_inv he
  obtain ⟨c', hc', hf⟩ := hcs.get hb
  have hlen : idx < cs.length := (List.getElem?_eq_some_iff.mp hc').1
  refine ⟨idx, v', p', e, c', b, rfl, hc', hf, he', ?_, by omega⟩
  rw [List.append_assoc, rdVarint_write _ (inRange_of_nat_lt hi)]

theorem rdByte_cons (b : UInt8) (r : Bytes) : rdByte (b :: r) = .ok (b, r) := rfl

/-- `nn` is the position of `s`: both orders of a union with `null` in one statement -/
theorem encode_nullable_inv {s : ASchema} {nn : Nat} (hnn : nn < 2) {p : Plan} {v : Value} {bs : Bytes}
    (he : encode p (.union (if nn = 0 then [s, .null] else [.null, s])) v = some bs) (rest : Bytes) :
    ∃ idx v' p' e b, v = .union idx v' ∧ idx < 2 ∧ rdByte (bs ++ rest) = .ok (b, e ++ rest) ∧ b.toNat / 2 = idx ∧
      if idx = nn then encode p' s v' = some e else e = [] := by
  obtain ⟨bl, idx, v', b, p', e, rfl, rfl, hb, he', hi, rfl⟩ := encode_union_inv he
  have h0 : rdByte (writeVarint ((0 : Nat) : Int) ++ e ++ rest) = .ok (0, e ++ rest) := by
    rw [show writeVarint ((0 : Nat) : Int) = [0] from writeVarint_zero]; rfl
  have h1 : rdByte (writeVarint ((1 : Nat) : Int) ++ e ++ rest) = .ok (2, e ++ rest) := by
    rw [show writeVarint ((1 : Nat) : Int) = [2] from writeVarint_one]; rfl
  match nn, hnn, idx, hb with
  | 0, _, 0, hb => cases hb; exact ⟨0, v', p', e, 0, rfl, by decide, h0, rfl, he'⟩
  | 0, _, 1, hb => cases hb; exact ⟨1, v', p', e, 2, rfl, by decide, h1, rfl, (encode_null_inv he').2⟩
  | 1, _, 0, hb => cases hb; exact ⟨0, v', p', e, 0, rfl, by decide, h0, rfl, (encode_null_inv he').2⟩
  | 1, _, 1, hb => cases hb; exact ⟨1, v', p', e, 2, rfl, by decide, h1, rfl, he'⟩
  | 0, _, k + 2, hb => cases hb
  | 1, _, k + 2, hb => cases hb

theorem rdVarint_blockHeader (sized : Bool) {k body : Nat} (hk : k < 2 ^ 63) (tail : Bytes) :
    rdVarint ((if sized then writeVarint (-(k : Int)) ++ writeVarint (body : Nat) else writeVarint (k : Int)) ++ tail) =
      .ok ((if sized then -(k : Int) else (k : Int)), (if sized then writeVarint (body : Nat) else []) ++ tail) := by
  unfold rdVarint; rw [readVarint_blockHeader sized hk]

variable (env : Env)

/-- The budgets are `readBudget` spelled out, as `omega` needs them (here and in `DeliversAt`). The block loops
get `+ 3`: one step more than their items, for the terminating zero block. -/
structure SkipBudAt (n : Nat) : Prop where
  skip : ∀ {c s p v bs} rest, CodecFor c s → encode p s v = some bs → c.sz + 2 * v.sz + 2 ≤ n →
    skip env n c (bs ++ rest) = .ok rest
  skipFields : ∀ {cs ss ps vs bs} rest, CodecsFor cs ss → encodeFields ps ss vs = some bs →
    Codec.szList cs + 2 * Value.szList vs + 2 ≤ n → skipFields env n cs (bs ++ rest) = .ok rest
  skipItems : ∀ {keyed item s kvs} {es : List Bytes} rest, CodecFor item s → All2 (EntryD keyed s) kvs es →
    item.sz + 2 * Value.szList (kvs.map (·.2)) + 2 ≤ n →
    skipItems env n keyed item es.length (es.flatten ++ rest) = .ok rest
  skipBlocks : ∀ {keyed item s bl kvs} {es : List Bytes} {bs} rest, CodecFor item s → All2 (EntryD keyed s) kvs es →
    encBlocks bl es = some bs → item.sz + 2 * Value.szList (kvs.map (·.2)) + 3 ≤ n →
    skipBlocks env n keyed item (bs ++ rest) = .ok rest

theorem skipBud_skip (n : Nat) (ih : SkipBudAt env n) :
    ∀ {c s p v bs} rest, CodecFor c s → encode p s v = some bs → c.sz + 2 * v.sz + 2 ≤ n + 1 →
    skip env (n + 1) c (bs ++ rest) = .ok rest := by
  intro c s p v bs rest hc he hn
  -- the two nullable-union codecs, for either position of `null`
  have hone : ∀ {c' s'} {nn : Nat}, nn < 2 → CodecFor c' s' →
      encode p (.union (if nn = 0 then [s', .null] else [.null, s'])) v = some bs →
      (Codec.unionOne c' nn).sz + 2 * v.sz + 2 ≤ n + 1 → skip env (n + 1) (.unionOne c' nn) (bs ++ rest) = .ok rest := by
    intro c' s' nn hnn hc' he hn
    obtain ⟨idx, v', p', e, b, rfl, hidx, hb, rfl, hbr⟩ := encode_nullable_inv hnn he rest
    simp only [Codec.sz, Value.sz] at hn
    simp only [skip, Outcome.bind_eq, Outcome.pure_eq, hb, Outcome.bind_ok', if_neg (Nat.not_le.mpr hidx)]
    split at hbr
    · rw [if_pos (by assumption)]; exact ih.skip _ hc' hbr (by omega)
    · rw [if_neg (by assumption), hbr]; rfl
  have hstr : ∀ {o} {nn : Nat}, nn < 2 →
      encode p (.union (if nn = 0 then [.string, .null] else [.null, .string])) v = some bs →
      skip env (n + 1) (.unionNullString o nn) (bs ++ rest) = .ok rest := by
    intro o nn hnn he
    obtain ⟨idx, v', p', e, b, rfl, hidx, hb, rfl, hbr⟩ := encode_nullable_inv hnn he rest
    simp only [skip, Outcome.bind_eq, Outcome.pure_eq, hb, Outcome.bind_ok', if_neg (Nat.not_le.mpr hidx)]
    split at hbr
    · obtain ⟨sb, rfl, hl, rfl⟩ := encode_string_inv hbr
      rw [if_pos (by assumption)]; exact skipLen_encBytes hl rest
    · rw [if_neg (by assumption), hbr]; rfl
  cases hc with
  | null => obtain ⟨rfl, rfl⟩ := encode_null_inv he; simp only [skip, List.nil_append]
  | bool | nullBool =>
    obtain ⟨b, rfl, rfl⟩ := encode_boolean_inv he; simp only [skip]
    exact skipN_append' (writeBool b) rest 1 (by cases b <;> rfl)
  | intI | date | nullIntI =>
    obtain ⟨i, rfl, hr, rfl⟩ := encode_int_inv he; simp only [skip]
    exact skipVar_write _ (inRange_32_64 hr) rest
  | intL | timeLong | nullInt =>
    obtain ⟨i, rfl, hr, rfl⟩ := encode_long_inv he; simp only [skip]
    exact skipVar_write _ hr rest
  | float | nullFloat =>
    obtain ⟨b, rfl, _, rfl⟩ := encode_float_inv he; simp only [skip]
    exact skipN_append' _ rest 4 (by simp [putLE_length])
  | double | f32double | nullDouble =>
    obtain ⟨b, rfl, _, rfl⟩ := encode_double_inv he; simp only [skip]
    exact skipN_append' _ rest 8 (by simp [putLE_length])
  | bytes =>
    obtain ⟨b, rfl, hl, rfl⟩ := encode_bytes_inv he; simp only [skip]
    exact skipLen_encBytes hl rest
  | string | timeString | nullString | nullTime =>
    obtain ⟨b, rfl, hl, rfl⟩ := encode_string_inv he; simp only [skip]
    exact skipLen_encBytes hl rest
  | fixed =>
    obtain ⟨rfl, hl⟩ := encode_fixed_inv he; simp only [skip]
    exact skipN_append' _ rest _ (by omega)
  | array hitem =>
    obtain ⟨bl, subs, vs, encs, rfl, rfl, hi, hb⟩ := encode_array_inv he
    simp only [Codec.sz, Value.sz] at hn
    simp only [skip]
    exact ih.skipBlocks rest hitem (entries_of_items (encodeItems_inv hi)) hb (by rw [map_snd_unkeyed]; omega)
  | map hval =>
    obtain ⟨bl, subs, ks, vs, encs, rfl, rfl, hlen, hks, hi, hb⟩ := encode_map_inv he
    simp only [Codec.sz, Value.sz] at hn
    simp only [skip]
    exact ih.skipBlocks rest hval (entries_of_map (encodeItems_inv hi) ks hlen hks) hb (by rw [zip_map_snd ks vs hlen]; omega)
  | pointer hc' =>
    simp only [Codec.sz] at hn
    simp only [skip]; exact ih.skip _ hc' he (by omega)
  | record hcs _ =>
    obtain ⟨bl, subs, vs, rfl, rfl, hf⟩ := encode_record_inv he
    simp only [Codec.sz, Value.sz] at hn
    simp only [skip]; exact ih.skipFields _ hcs hf (by omega)
  | @union cs ss hcs =>
    obtain ⟨idx, v', p', e, c', s', rfl, hc', hf, he', hrd, hr⟩ := encode_union_rd hcs he rest
    have hsz := Codec.sz_le_of_getElem? hc'
    simp only [Codec.sz, Value.sz] at hn
    simp only [skip, Outcome.bind_eq, hrd, Outcome.bind_ok', if_neg hr, Int.toNat_natCast, hc']
    exact ih.skip _ hf he' (by omega)
  | unionOne0 hc' => exact hone (nn := 0) (by decide) hc' he hn
  | unionOne1 hc' => exact hone (nn := 1) (by decide) hc' he hn
  | unionNullString0 => exact hstr (nn := 0) (by decide) he
  | unionNullString1 => exact hstr (nn := 1) (by decide) he

theorem skipBud_skipFields (n : Nat) (ih : SkipBudAt env n) :
    ∀ {cs ss ps vs bs} rest, CodecsFor cs ss → encodeFields ps ss vs = some bs →
    Codec.szList cs + 2 * Value.szList vs + 2 ≤ n + 1 → skipFields env (n + 1) cs (bs ++ rest) = .ok rest := by
  intro cs ss ps vs bs rest hcs he hn
  cases hcs with
  | nil =>
    obtain ⟨rfl, rfl, rfl⟩ := encodeFields_nil_inv he
    simp only [skipFields, List.nil_append]
  | cons h1 h2 =>
    obtain ⟨p, ps', v, vs', a, b, rfl, rfl, ha, hb, rfl⟩ := encodeFields_cons_inv he
    simp only [Codec.szList, Value.szList] at hn
    simp only [skipFields, Outcome.bind_eq]
    rw [List.append_assoc]
    exact Outcome.bind_eq_ok.mpr ⟨_, ih.skip _ h1 ha (by omega), ih.skipFields _ h2 hb (by omega)⟩

theorem skipBud_skipItems (n : Nat) (ih : SkipBudAt env n) :
    ∀ {keyed item s kvs} {es : List Bytes} rest, CodecFor item s → All2 (EntryD keyed s) kvs es →
    item.sz + 2 * Value.szList (kvs.map (·.2)) + 2 ≤ n + 1 →
    skipItems env (n + 1) keyed item es.length (es.flatten ++ rest) = .ok rest := by
  intro keyed item s kvs es rest hitem hes hn
  cases hes with
  | nil => simp only [List.length_nil, skipItems, List.flatten_nil, List.nil_append]
  | @cons kv e kvs' es' hr ht =>
    obtain ⟨p, d, hd, hk⟩ := hr
    simp only [List.map_cons, Value.szList] at hn
    simp only [List.length_cons, skipItems, Outcome.bind_eq, Outcome.pure_eq, List.flatten_cons]
    rcases hk with ⟨hkf, -, rfl⟩ | ⟨hkt, hkl, rfl⟩
    · subst hkf
      simp only [Bool.false_eq_true, if_false, Outcome.bind_ok', List.append_assoc]
      exact Outcome.bind_eq_ok.mpr ⟨_, ih.skip _ hitem hd (by omega), ih.skipItems _ hitem ht (by omega)⟩
    · subst hkt
      simp only [if_true, List.append_assoc]
      rw [skipLen_encBytes hkl]
      simp only [Outcome.bind_ok']
      exact Outcome.bind_eq_ok.mpr ⟨_, ih.skip _ hitem hd (by omega), ih.skipItems _ hitem ht (by omega)⟩

theorem skipBud_skipBlocks (n : Nat) (ih : SkipBudAt env n) :
    ∀ {keyed item s bl kvs} {es : List Bytes} {bs} rest, CodecFor item s → All2 (EntryD keyed s) kvs es →
    encBlocks bl es = some bs → item.sz + 2 * Value.szList (kvs.map (·.2)) + 3 ≤ n + 1 →
    skipBlocks env (n + 1) keyed item (bs ++ rest) = .ok rest := by
  intro keyed item s bl kvs es bs rest hitem hes hb hn
  cases bl with
  | nil =>
    obtain ⟨rfl, rfl⟩ := encBlocks_nil_inv hb
    simp only [skipBlocks, Outcome.bind_eq, Outcome.pure_eq]
    rw [rdVarint_write 0 inRange_zero]
    simp only [Outcome.bind_ok', if_true]
  | cons blk bl =>
    obtain ⟨m, sized⟩ := blk
    obtain ⟨kvs₁, kvs₂, es₁, es₂, tl, rfl, h₁, h₂, hne, hm0, rfl, hm63, hbody63, htl, rfl⟩ := encBlocks_cons_split hes hb
    have hpos := Value.szList_pos (vs := kvs₁.map (·.2)) (by simpa using hne)
    simp only [List.map_append, Value.szList_append] at hn
    simp only [skipBlocks, Outcome.bind_eq, Outcome.pure_eq]
    rw [List.append_assoc, List.append_assoc, rdVarint_blockHeader sized hm63]
    simp only [Outcome.bind_ok', if_neg (blockHeader_ne_zero sized hm0)]
    cases sized with
    | true =>
      simp only [if_true, if_pos (show -(es₁.length : Int) < 0 by omega), rdVarint_write _ (inRange_of_nat_lt hbody63),
        Outcome.bind_ok', skipN_append]
      exact ih.skipBlocks _ hitem h₂ htl (by omega)
    | false =>
      simp only [Bool.false_eq_true, if_false, if_neg (show ¬ (es₁.length : Int) < 0 by omega), List.nil_append, Int.toNat_natCast]
      exact Outcome.bind_eq_ok.mpr ⟨_, ih.skipItems (tl ++ rest) hitem h₁ (by omega), ih.skipBlocks _ hitem h₂ htl (by omega)⟩

theorem skipBudAt : ∀ n, SkipBudAt env n := by
  intro n
  induction n with
  | zero => constructor <;> intros <;> omega
  | succ n ih =>
    exact ⟨skipBud_skip env n ih, skipBud_skipFields env n ih, skipBud_skipItems env n ih, skipBud_skipBlocks env n ih⟩

theorem skip_budget {c : Codec} {s : ASchema} {p : Plan} {v : Value} {bs : Bytes} (hcf : CodecFor c s)
    (he : encode p s v = some bs) {n : Nat} (hn : readBudget c v ≤ n) (rest : Bytes) :
    skip env n c (bs ++ rest) = .ok rest :=
  (skipBudAt env n).skip rest hcf he hn

theorem skip_ne_fuel {c : Codec} {s : ASchema} {p : Plan} {v : Value} {bs : Bytes} (hcf : CodecFor c s)
    (he : encode p s v = some bs) {n : Nat} (hn : readBudget c v ≤ n) (rest : Bytes) :
    skip env n c (bs ++ rest) ≠ .fuel := by
  rw [skip_budget env hcf he hn rest]; simp

theorem skip_okOrFuel {c : Codec} {s : ASchema} {p : Plan} {v : Value} {bs : Bytes} (hcf : CodecFor c s)
    (he : encode p s v = some bs) (n : Nat) (rest : Bytes) : OkOrFuel (skip env n c (bs ++ rest)) rest :=
  (fuel_or_of_budget (f := fun n => skip env n c (bs ++ rest)) (P := (· = .ok rest)) (fun _ hm => skip_budget env hcf he hm rest)
    (fun _ hm h => skip_mono env hm h)).symm

end Avro
