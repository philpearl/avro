import AvroModel.Lemmas.EndToEnd
import AvroModel.Props.C07
/-!
# The written file in the reader's vocabulary, and the writer's header

What `Props/C08.lean` and `Props/C16.lean` need in order to apply the truncation theorem to what a
writer left behind: the fault-free output is `header ++ body` of `writtenBlocks`, those blocks hold a
prefix of the history's records, and the header the library's writer emits (`writerMeta`) is a
`ValidHeader`.
-/
namespace Avro.Crash
open Avro Avro.File Avro.EndToEnd

variable {α ε : Type}

/-- the blocks the fault-free writer emitted for the history `ops`, in the reader's vocabulary -/
def writtenBlocks (cfg : EncCfg) (dec : Bytes → α) (ops : List EncOp) : List (Blk α) :=
  (specPart cfg.blockSize ops []).1.map (blkOf cfg dec)

theorem written_no_error (cfg : EncCfg) (ops : List EncOp) : (encRun cfg {} ops).2.2 = none := by
  obtain ⟨s', w', hrun, _, _, _⟩ := C09.refines cfg ops
  rw [hrun]

theorem allVals_written_prefix (cfg : EncCfg) (dec : Bytes → α) (ops : List EncOp) :
    allVals (writtenBlocks cfg dec ops) <+: (encodings ops).map dec := by
  simp only [writtenBlocks]
  rw [allVals_blkOf]
  exact (part_flatten_prefix _ _).map dec

/-- `name` is one of the three codec names the reader knows, and `sel` the codec it selects -/
def CodecName (name : Bytes) (sel : CodecSel) : Prop :=
  (name = vNull ∧ sel = .null) ∨ (name = vDeflate ∧ sel = .deflate) ∨ (name = vSnappy ∧ sel = .snappy)

theorem CodecName.length_le {name : Bytes} {sel : CodecSel} (h : CodecName name sel) : name.length ≤ maxLen := by
  rcases h with ⟨rfl, _⟩ | ⟨rfl, _⟩ | ⟨rfl, _⟩ <;> decide

theorem selectCodec_name {name : Bytes} {sel : CodecSel} (h : CodecName name sel) (m : Meta) :
    selectCodec ((kCodec, name) :: m) = some sel := by
  rcases h with ⟨rfl, rfl⟩ | ⟨rfl, rfl⟩ | ⟨rfl, rfl⟩ <;> simp [selectCodec, metaGet] <;> decide

/-- the metadata the writer emits: one map block with the entries `avro.schema`, `avro.codec` -/
def writerMeta (js name : Bytes) : List (Bytes × Bytes) := [(kSchema, js), (kCodec, name)]

/-- **The writer's header is a valid header** for the library's reader: `mkHeader` of the single
metadata block `avro.schema = js`, `avro.codec = name`, with a 16-byte sync marker, as soon as the
schema JSON builds the record decoder and `name` is one of null / deflate / snappy. -/
theorem valid_writerHeader (X : Ext α) (js name sync : Bytes) (fuel : Nat) (hf : 1 < fuel)
    (hs : sync.length = 16) (hjs : js.length ≤ maxLen) (sel : CodecSel) (rc : RecCodec α)
    (hname : CodecName name sel) (hb : X.build js = some rc) :
    ValidHeader X fuel (mkHeader [writerMeta js name] sync)
      { «meta» := metaOf [writerMeta js name], sync := sync } sel rc := by
  refine C07.valid_mkHeader X _ sync fuel (good_writerMeta js name hjs hname.length_le) (by simpa using hf) hs sel rc ?_ ?_
  · simp only [metaOf, List.flatten_cons, List.flatten_nil, List.append_nil, List.reverse_cons,
      List.reverse_nil, List.nil_append, List.cons_append]
    exact selectCodec_name hname _
  · refine ⟨js, ?_, hb⟩
    have hk : ¬ kCodec = kSchema := by decide
    simp [metaOf, metaGet, hk]

end Avro.Crash
