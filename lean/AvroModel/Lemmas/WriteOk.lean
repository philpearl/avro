import AvroModel.CodecFor
import AvroModel.Lemmas.WireInv
import AvroModel.Lemmas.SemEqns
/-!
Write correctness: the bytes `write` produces for a Go value are exactly the specification's
encoding — under the canonical plan (one unsized block per non-empty collection) — of the datum
the value denotes (`toAvro`), whenever the specification defines an encoding for that datum.
-/
namespace Avro

mutual
/-- the plan the library's writer follows: each non-empty array/map is one block without a size -/
def canonPlan : Value → Plan
  | .record vs => .node [] (canonPlans vs)
  | .array vs => .node (if vs.isEmpty then [] else [(vs.length, false)]) (canonPlans vs)
  | .map _ vs => .node (if vs.isEmpty then [] else [(vs.length, false)]) (canonPlans vs)
  | .union _ v => .node [] [canonPlan v]
  | _ => .node [] []
def canonPlans : List Value → List Plan
  | [] => []
  | v :: vs => canonPlan v :: canonPlans vs
end

variable (env : Env)

/-- the null-ness notion of the code itself -/
abbrev codeNull : Codec → GoVal → Bool := omits env

structure WriteOkAt (n : Nat) : Prop where
  write : ∀ m c s g bs v bs', CodecFor c s → write env n c g = some bs → toAvro env (omits env) m c g = some v →
    encode (canonPlan v) s v = some bs' → bs' = bs
  items : ∀ m c s gs bs vs encs, CodecFor c s → writeItems env n c gs = some bs → toAvroItems env (omits env) m c gs = some vs →
    encodeItems (canonPlans vs) s vs = some encs → encs.flatten = bs ∧ encs.length = gs.length
  entries : ∀ m c s ks gs bs vs encs, CodecFor c s → writeEntries env n c ks gs = some bs → toAvroItems env (omits env) m c gs = some vs →
    encodeItems (canonPlans vs) s vs = some encs → (List.zipWith (fun k e => encBytes k ++ e) ks encs).flatten = bs ∧ ks.length = gs.length
  fields : ∀ m cs ss ts fs bs vs bs', CodecsFor cs ss → writeFields env n cs ts fs = some bs → toAvroFields env (omits env) m cs ts fs = some vs →
    encodeFields (canonPlans vs) ss vs = some bs' → bs' = bs

/-- the bytes of a datum without children, read off the datum (a `fixed` is the one schema under which
bytes go unprefixed) -/
def atomBytes : ASchema → Value → Bytes
  | _, .null => []
  | _, .bool b => writeBool b
  | _, .int i => writeVarint i
  | _, .float b => putLE 4 b
  | _, .double b => putLE 8 b
  | .fixed _, .bytes bs => bs
  | _, .bytes bs => encBytes bs
  | _, _ => []

def ASchema.isAtom : ASchema → Bool
  | .record .. | .array _ | .map _ | .union _ => false
  | _ => true

theorem encode_atom {p s v bs} (hs : s.isAtom = true) (h : encode p s v = some bs) : bs = atomBytes s v := by
  cases p; cases s <;> cases hs <;> cases v <;>
    first | (cases h <;> rfl) | exact (Option.some.inj (Option.ite_none_right_eq_some.mp h).2).symm

theorem CodecFor.stripPtr {c : Codec} {s : ASchema} : CodecFor c s → CodecFor c.stripPtr s := by
  fun_induction Codec.stripPtr c with
  | case1 c ih => intro h; cases h with | pointer h => exact ih h
  | case2 c _ => exact id

theorem encBlocks_canon {α : Type} {vs : List α} {encs : List Bytes} {bs' : Bytes} (hl : vs.length = encs.length)
    (h : encBlocks (if vs.isEmpty then [] else [(vs.length, false)]) encs = some bs') :
    bs' = if encs.isEmpty then writeVarint 0 else writeVarint encs.length ++ encs.flatten ++ writeVarint 0 := by
  cases vs with
  | nil =>
    obtain ⟨rfl, rfl⟩ := encBlocks_nil_inv h
    rfl
  | cons v vs =>
    obtain ⟨rest, _, _, _, _, hr, rfl⟩ := encBlocks_cons_inv h
    rw [hl, List.drop_length] at hr
    obtain ⟨_, rfl⟩ := encBlocks_nil_inv hr
    rw [hl, List.take_length]
    cases encs with
    | nil => cases hl
    | cons e es => rfl

/-- `nn` is the index of the value branch: `ss` is `[s, null]` (`nn = 0`) or `[null, s]` (`nn = 1`) -/
theorem writeOk_unionOne {n m : Nat} {c : Codec} {s : ASchema} {ss : List ASchema} {nn : Nat} {g : GoVal}
    {bs bs' : Bytes} {v : Value}
    (hwrite : ∀ b v e, write env n c g = some b → toAvro env (omits env) m c g = some v →
      encode (canonPlan v) s v = some e → e = b)
    (hle : nn ≤ 1) (hnn : ss[nn]? = some s) (hnull : ss[1 - nn]? = some .null)
    (hw : write env (n + 1) (.unionOne c nn) g = some bs)
    (ht : toAvro env (omits env) (m + 1) (.unionOne c nn) g = some v)
    (he : encode (canonPlan v) (.union ss) v = some bs') : bs' = bs := by
  rw [write_unionOne] at hw; rw [toAvro_unionOne] at ht
  obtain ⟨_, idx, v', s', _, e, hp, rfl, hb, he', _, rfl⟩ := encode_union_inv he
  cases hp
  split at hw
  · rename_i ho
    rw [if_pos ho] at ht
    cases hw; cases ht
    cases hnull.symm.trans hb
    obtain ⟨_, rfl⟩ := encode_null_inv he'
    rw [List.append_nil]; congr 1; omega
  · rename_i ho
    rw [if_neg ho] at ht
    obtain ⟨v0, ht0, hv⟩ := Option.map_eq_some_iff.mp ht
    cases hv
    cases hnn.symm.trans hb
    cases hw0 : write env n c g with
    | none => rw [hw0] at hw; cases hw
    | some b =>
      rw [hw0] at hw; cases hw
      rw [hwrite b v' e hw0 ht0 he']

theorem writeOk_unionNullString {n m : Nat} {o : Bool} {ss : List ASchema} {nn : Nat} {g : GoVal}
    {bs bs' : Bytes} {v : Value} (hle : nn ≤ 1) (hnn : ss[nn]? = some .string) (hnull : ss[1 - nn]? = some .null)
    (hw : write env (n + 1) (.unionNullString o nn) g = some bs)
    (ht : toAvro env (omits env) (m + 1) (.unionNullString o nn) g = some v)
    (he : encode (canonPlan v) (.union ss) v = some bs') : bs' = bs := by
  obtain ⟨_, idx, v', s', _, e, hp, rfl, hb, he', _, rfl⟩ := encode_union_inv he
  cases g <;> try cases hw
  rename_i sb
  rw [write_unionNullString] at hw; rw [toAvro_unionNullString] at ht
  split at hw
  · rename_i ho
    rw [if_pos ho] at ht
    cases hw; cases ht
    cases hnull.symm.trans hb
    obtain ⟨_, rfl⟩ := encode_null_inv he'
    rw [List.append_nil]; congr 1; omega
  · rename_i ho
    rw [if_neg ho] at ht
    cases hw; cases ht
    cases hnn.symm.trans hb
    obtain ⟨_, hv, _, rfl⟩ := encode_string_inv he'
    cases hv
    rfl

theorem writeOk_write (n : Nat) (ih : WriteOkAt env n) :
    ∀ m c s g bs v bs', CodecFor c s → write env (n + 1) c g = some bs → toAvro env (omits env) m c g = some v →
    encode (canonPlan v) s v = some bs' → bs' = bs := by
  intro m c s g bs v bs' hc hw ht he
  cases m with
  | zero => cases ht
  | succ m =>
  cases hc with
  -- without children: `toAvro` fixes the datum, whose bytes `encode_atom` reads off; `write` computes to the same
  | null | bool | intI | date | intL | timeLong | float | double | f32double | bytes | string | timeString | fixed =>
    cases g <;> cases ht <;> exact (encode_atom rfl he).trans (Option.some.inj hw)
  | nullInt | nullIntI | nullBool | nullDouble | nullFloat | nullString | nullTime =>
    cases g <;> try cases ht
    rename_i inner; cases inner <;> cases ht; exact (encode_atom rfl he).trans (Option.some.inj hw)
  | unionNullString0 => exact writeOk_unionNullString env (by decide) rfl rfl hw ht he
  | unionNullString1 => exact writeOk_unionNullString env (by decide) rfl rfl hw ht he
  | unionOne0 hc' => exact writeOk_unionOne env (fun b v e => ih.write m _ _ g b v e hc') (by decide) rfl rfl hw ht he
  | unionOne1 hc' => exact writeOk_unionOne env (fun b v e => ih.write m _ _ g b v e hc') (by decide) rfl rfl hw ht he
  | union hcs => cases g <;> cases hw
  | pointer hc' =>
    cases g <;> try cases hw
    rename_i tgt
    cases tgt with
    | some x => exact ih.write m _ _ x bs v bs' hc' hw ht he
    | none =>
      rw [write_ptr_none] at hw; rw [toAvro_ptr_none] at ht
      have hs := hc'.stripPtr
      split at ht
      · rename_i hstrip
        rw [hstrip] at hs hw
        cases hs; cases ht; cases hw
        obtain ⟨_, _, _, _, hp, hv, hi, hb⟩ := encode_array_inv he
        cases hv; cases hp; cases hi
        exact (encBlocks_nil_inv hb).2
      · rename_i hstrip
        rw [hstrip] at hs hw
        cases hs; cases ht; cases hw
        obtain ⟨_, _, _, _, _, hp, hv, _, _, hi, hb⟩ := encode_map_inv he
        cases hv; cases hp; cases hi
        exact (encBlocks_nil_inv hb).2
      · cases ht
  | @record z cs ts ns ss hcs hl =>
    cases g <;> try cases hw
    rw [toAvro_record] at ht
    obtain ⟨vs, htf, rfl⟩ := Option.map_eq_some_iff.mp ht
    obtain ⟨_, _, _, hp, hv, hf⟩ := encode_record_inv he
    cases hv; cases hp
    exact ih.fields m _ _ _ _ bs vs bs' hcs hw htf hf
  | @array item s' o hitem =>
    cases g <;> try cases hw
    rename_i items
    rw [toAvro_array] at ht
    obtain ⟨vs, hti, rfl⟩ := Option.map_eq_some_iff.mp ht
    obtain ⟨_, _, _, encs, hp, hv, hi, hb⟩ := encode_array_inv he
    cases hv; cases hp
    have hbs := encBlocks_canon (encodeItems_inv hi).length_eq hb
    cases items with
    | nil =>
      cases hw
      cases m with
      | zero => cases hti
      | succ m => cases hti; cases hi; exact hbs
    | cons g gs =>
      cases hwi : writeItems env n item (g :: gs) with
      | none => rw [write_array, hwi] at hw; cases hw
      | some body =>
        rw [write_array, hwi] at hw; cases hw
        obtain ⟨rfl, hlen⟩ := ih.items m _ _ _ body vs encs hitem hwi hti hi
        cases encs with
        | nil => cases hlen
        | cons e es => rw [← hlen]; exact hbs
  | @map val s' o hval =>
    cases g <;> try cases hw
    rename_i nl ks gs
    rw [toAvro_map] at ht
    obtain ⟨vs, hti, rfl⟩ := Option.map_eq_some_iff.mp ht
    obtain ⟨_, _, _, _, encs, hp, hv, hkl, _, hi, hb⟩ := encode_map_inv he
    cases hv; cases hp
    have hvl := (encodeItems_inv hi).length_eq
    have hbs := encBlocks_canon (by rw [List.length_zipWith]; omega) hb
    cases ks with
    | nil =>
      cases hw
      cases vs with
      | nil => cases hi; exact hbs
      | cons _ _ => cases hkl
    | cons k ks =>
      cases hwi : writeEntries env n val (k :: ks) gs with
      | none => rw [write_map, hwi] at hw; cases hw
      | some body =>
        rw [write_map, hwi] at hw; cases hw
        obtain ⟨rfl, _⟩ := ih.entries m _ _ _ gs body vs encs hval hwi hti hi
        cases encs with
        | nil => cases vs <;> simp at hvl hkl
        | cons e es =>
          have hzl : (List.zipWith (fun k e => encBytes k ++ e) (k :: ks) (e :: es)).length = (k :: ks).length := by
            rw [List.length_zipWith]; omega
          rw [← hzl]; exact hbs

theorem encodeItems_canon_cons {s : ASchema} {v : Value} {vs : List Value} {encs : List Bytes}
    (h : encodeItems (canonPlans (v :: vs)) s (v :: vs) = some encs) :
    ∃ e es, encode (canonPlan v) s v = some e ∧ encodeItems (canonPlans vs) s vs = some es ∧ encs = e :: es := by
  simp only [canonPlans, encodeItems] at h
  split at h <;> cases h
  exact ⟨_, _, ‹_›, ‹_›, rfl⟩

theorem writeOk_items (n : Nat) (ih : WriteOkAt env n) :
    ∀ m c s gs bs vs encs, CodecFor c s → writeItems env (n + 1) c gs = some bs → toAvroItems env (omits env) m c gs = some vs →
    encodeItems (canonPlans vs) s vs = some encs → encs.flatten = bs ∧ encs.length = gs.length := by
  intro m c s gs bs vs encs hc hw ht he
  cases m with
  | zero => cases ht
  | succ m =>
  cases gs with
  | nil => cases hw; cases ht; cases he; exact ⟨rfl, rfl⟩
  | cons g gs =>
    rw [writeItems_cons] at hw; rw [toAvroItems_cons] at ht
    split at hw <;> try cases hw
    rename_i a b ha hb
    split at ht <;> try cases ht
    rename_i v vs' hv hvs
    obtain ⟨e, es, he1, he2, rfl⟩ := encodeItems_canon_cons he
    cases ih.write m c s g a v e hc ha hv he1
    obtain ⟨rfl, h3⟩ := ih.items m c s gs b vs' es hc hb hvs he2
    exact ⟨rfl, congrArg (· + 1) h3⟩

theorem writeOk_entries (n : Nat) (ih : WriteOkAt env n) :
    ∀ m c s ks gs bs vs encs, CodecFor c s → writeEntries env (n + 1) c ks gs = some bs → toAvroItems env (omits env) m c gs = some vs →
    encodeItems (canonPlans vs) s vs = some encs →
    (List.zipWith (fun k e => encBytes k ++ e) ks encs).flatten = bs ∧ ks.length = gs.length := by
  intro m c s ks gs bs vs encs hc hw ht he
  cases m with
  | zero => cases ht
  | succ m =>
  cases ks <;> cases gs <;> try cases hw
  · cases ht; cases he; exact ⟨rfl, rfl⟩
  · rename_i k ks g gs
    rw [writeEntries_cons] at hw; rw [toAvroItems_cons] at ht
    split at hw <;> try cases hw
    rename_i a b ha hb
    split at ht <;> try cases ht
    rename_i v vs' hv hvs
    obtain ⟨e, es, he1, he2, rfl⟩ := encodeItems_canon_cons he
    cases ih.write m c s g a v e hc ha hv he1
    obtain ⟨rfl, h3⟩ := ih.entries m c s ks gs b vs' es hc hb hvs he2
    exact ⟨rfl, congrArg (· + 1) h3⟩

theorem writeOk_fields (n : Nat) (ih : WriteOkAt env n) :
    ∀ m cs ss ts fs bs vs bs', CodecsFor cs ss → writeFields env (n + 1) cs ts fs = some bs → toAvroFields env (omits env) m cs ts fs = some vs →
    encodeFields (canonPlans vs) ss vs = some bs' → bs' = bs := by
  intro m cs ss ts fs bs vs bs' hcs hw ht he
  cases m with
  | zero => cases ht
  | succ m =>
  cases hcs with
  | nil => cases hw; cases ht; cases he; rfl
  | @cons c s cs' ss' h1 h2 =>
    rcases ts with _ | ⟨_ | i, ts⟩ <;> try cases hw
    rw [writeFields_cons] at hw; rw [toAvroFields_cons] at ht
    split at hw <;> try cases hw
    rename_i g hg
    simp only [hg] at ht
    split at hw <;> try cases hw
    rename_i a b ha hb
    split at ht <;> try cases ht
    rename_i v vs' hv hvs
    obtain ⟨_, _, _, _, a', b', hp, hvv, hea, heb, rfl⟩ := encodeFields_cons_inv he
    cases hvv; cases hp
    rw [ih.write m c s g a v a' h1 ha hv hea, ih.fields m cs' ss' ts fs b vs' b' h2 hb hvs heb]

theorem writeOkAt : ∀ n, WriteOkAt env n := by
  intro n
  induction n with
  | zero =>
    constructor
    · intro m c s g bs v bs' _ h; cases h
    · intro m c s gs bs vs encs _ h; cases h
    · intro m c s ks gs bs vs encs _ h; cases h
    · intro m cs ss ts fs bs vs bs' _ h; cases h
  | succ n ih =>
    exact ⟨writeOk_write env n ih, writeOk_items env n ih, writeOk_entries env n ih, writeOk_fields env n ih⟩

end Avro
