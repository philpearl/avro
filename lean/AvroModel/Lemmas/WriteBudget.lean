import AvroModel.Lemmas.SemEqns
import AvroModel.Lemmas.Size
/-!
The step budgets of `write`, `toAvro`, `ofAvro` and their list companions.

One fact per function (`WStepAt`, `TStepAt`, `ofAvro_step`): a further step changes nothing once
the result is not the out-of-budget value (`none`, resp. `.illtyped`) or the budget exceeds the
size of the arguments. Read with the first alternative it is monotonicity (`write_mono`, …); read
with the second it is an explicit sufficient budget (`write_stable`, …). Since `none` / `.illtyped`
double as "ill-typed", this is the form "termination" takes for these functions: whatever they
return at the budget `Codec.sz c + GoVal.sz g + 1` (`Value.sz v` for `ofAvro`) is their final
answer, so a `none` there is a property of the codec and the value, not of the budget.
-/
namespace Avro

/-! A sequence `f` of results at growing budgets, with out-of-budget value `bot` and size `s` of
the arguments. -/
section Sequence
variable {α : Type} {bot : α} {f : Nat → α} {s : Nat} (h : ∀ n, f n ≠ bot ∨ s ≤ n → f (n + 1) = f n)
include h

theorem step_mono {n m : Nat} (hnm : n ≤ m) (hn : f n ≠ bot) : f m = f n := by
  induction hnm with
  | refl => rfl
  | step _ ih => rw [h _ (.inl (by rw [ih]; exact hn)), ih]

theorem step_stable {n m : Nat} (hs : s ≤ n) (hnm : n ≤ m) : f m = f n := by
  induction hnm with
  | refl => rfl
  | @step m hnm ih => rw [h _ (.inr (Nat.le_trans hs hnm)), ih]

end Sequence

def OptLe {α : Type} (o o' : Option α) : Prop := o ≠ Option.none → o' = o

variable (env : Env)

structure WStepAt (n : Nat) : Prop where
  write : ∀ c g, write env n c g ≠ none ∨ c.sz + g.sz + 1 ≤ n → write env (n + 1) c g = write env n c g
  writeItems : ∀ c vs, writeItems env n c vs ≠ none ∨ c.sz + GoVal.szList vs + 1 ≤ n →
    writeItems env (n + 1) c vs = writeItems env n c vs
  writeEntries : ∀ c ks vs, writeEntries env n c ks vs ≠ none ∨ c.sz + GoVal.szList vs + 1 ≤ n →
    writeEntries env (n + 1) c ks vs = writeEntries env n c ks vs
  writeFields : ∀ cs ts fs, writeFields env n cs ts fs ≠ none ∨ Codec.szList cs + GoVal.szList fs + 1 ≤ n →
    writeFields env (n + 1) cs ts fs = writeFields env n cs ts fs

/- In each recursive case the hypothesis passes to the inner calls: a `none` inside makes the whole
result `none` (by computation, after `rw [e]`), and the sizes of the parts are smaller. -/
theorem wStepAt : ∀ n, WStepAt env n := by
  intro n
  induction n with
  | zero => constructor <;> intros <;> rename_i h <;> exact h.elim (absurd rfl) (fun h => by omega)
  | succ n ih =>
    constructor
    · intro c g h
      cases c
      case array item o =>
        cases g <;> try rfl
        rename_i items
        cases items with
        | nil => rfl
        | cons v vs =>
          rw [write_array] at h; rw [write_array, write_array]
          rw [ih.writeItems item (v :: vs)
            (h.imp (mt fun e => by rw [e]; rfl) (by simp only [Codec.sz, GoVal.sz]; omega))]
      case map val o =>
        cases g <;> try rfl
        rename_i nl ks vs
        cases ks with
        | nil => rfl
        | cons k ks =>
          rw [write_map] at h; rw [write_map, write_map]
          rw [ih.writeEntries val (k :: ks) vs
            (h.imp (mt fun e => by rw [e]; rfl) (by simp only [Codec.sz, GoVal.sz]; omega))]
      case pointer c' =>
        cases g <;> try rfl
        rename_i t
        cases t with
        | none => rfl
        | some x =>
          rw [write_ptr] at h; rw [write_ptr, write_ptr]
          exact ih.write c' x (h.imp id (by simp only [Codec.sz, GoVal.sz]; omega))
      case record z cs ts =>
        cases g <;> try rfl
        rw [write_record] at h; rw [write_record, write_record]
        exact ih.writeFields cs ts _ (h.imp id (by simp only [Codec.sz, GoVal.sz]; omega))
      case unionOne c' nn =>
        rw [write_unionOne] at h; rw [write_unionOne, write_unionOne]
        split
        · rfl
        · rename_i ho
          rw [ih.write c' g (h.imp (mt fun e => by rw [e, if_neg ho]) (by simp only [Codec.sz]; omega))]
      all_goals (cases g <;> rfl)
    · intro c vs h
      cases vs with
      | nil => rfl
      | cons v vs =>
        rw [writeItems_cons] at h; rw [writeItems_cons, writeItems_cons]
        rw [ih.write c v (h.imp (mt fun e => by rw [e]) (by simp only [GoVal.szList]; omega)),
          ih.writeItems c vs (h.imp (mt fun e => by rw [e]; cases write env n c v <;> rfl)
            (by simp only [GoVal.szList]; omega))]
    · intro c ks vs h
      cases ks <;> cases vs <;> try rfl
      rename_i k ks v vs
      rw [writeEntries_cons] at h; rw [writeEntries_cons, writeEntries_cons]
      rw [ih.write c v (h.imp (mt fun e => by rw [e]) (by simp only [GoVal.szList]; omega)),
        ih.writeEntries c ks vs (h.imp (mt fun e => by rw [e]; cases write env n c v <;> rfl)
          (by simp only [GoVal.szList]; omega))]
    · intro cs ts fs h
      rcases cs with _ | ⟨c, cs⟩
      · rfl
      · rcases ts with _ | ⟨_ | i, ts⟩ <;> try rfl
        rw [writeFields_cons] at h; rw [writeFields_cons, writeFields_cons]
        split
        · rfl
        · rename_i v hv
          have := GoVal.sz_le_of_getElem? hv
          simp only [hv] at h
          rw [ih.write c v (h.imp (mt fun e => by rw [e]) (by simp only [Codec.szList]; omega)),
            ih.writeFields cs ts fs (h.imp (mt fun e => by rw [e]; cases write env n c v <;> rfl)
              (by simp only [Codec.szList]; omega))]

theorem write_mono {n m : Nat} (h : n ≤ m) {c : Codec} {g : GoVal} {b : Bytes}
    (hw : write env n c g = some b) : write env m c g = some b := by
  rw [step_mono (fun k => (wStepAt env k).write c g) h (by rw [hw]; nofun), hw]

theorem writeItems_mono {n m : Nat} (h : n ≤ m) {c : Codec} {vs : List GoVal} {b : Bytes}
    (hw : writeItems env n c vs = some b) : writeItems env m c vs = some b := by
  rw [step_mono (fun k => (wStepAt env k).writeItems c vs) h (by rw [hw]; nofun), hw]

theorem writeEntries_mono {n m : Nat} (h : n ≤ m) {c : Codec} {ks : List Bytes} {vs : List GoVal} {b : Bytes}
    (hw : writeEntries env n c ks vs = some b) : writeEntries env m c ks vs = some b := by
  rw [step_mono (fun k => (wStepAt env k).writeEntries c ks vs) h (by rw [hw]; nofun), hw]

theorem writeFields_mono {n m : Nat} (h : n ≤ m) {cs : List Codec} {ts : List (Option Nat)} {fs : List GoVal}
    {b : Bytes} (hw : writeFields env n cs ts fs = some b) : writeFields env m cs ts fs = some b := by
  rw [step_mono (fun k => (wStepAt env k).writeFields cs ts fs) h (by rw [hw]; nofun), hw]

theorem write_stable (c : Codec) (g : GoVal) (m : Nat) (h : c.sz + g.sz + 1 ≤ m) :
    write env m c g = write env (c.sz + g.sz + 1) c g :=
  step_stable (fun k => (wStepAt env k).write c g) (Nat.le_refl _) h

variable (nullp : Codec → GoVal → Bool)

structure TStepAt (n : Nat) : Prop where
  toAvro : ∀ c g, toAvro env nullp n c g ≠ none ∨ c.sz + g.sz + 1 ≤ n →
    toAvro env nullp (n + 1) c g = toAvro env nullp n c g
  toAvroItems : ∀ c gs, toAvroItems env nullp n c gs ≠ none ∨ c.sz + GoVal.szList gs + 1 ≤ n →
    toAvroItems env nullp (n + 1) c gs = toAvroItems env nullp n c gs
  toAvroFields : ∀ cs ts fs, toAvroFields env nullp n cs ts fs ≠ none ∨ Codec.szList cs + GoVal.szList fs + 1 ≤ n →
    toAvroFields env nullp (n + 1) cs ts fs = toAvroFields env nullp n cs ts fs

theorem tStepAt : ∀ n, TStepAt env nullp n := by
  intro n
  induction n with
  | zero => constructor <;> intros <;> rename_i h <;> exact h.elim (absurd rfl) (fun h => by omega)
  | succ n ih =>
    constructor
    · intro c g h
      cases c
      case array item o =>
        cases g <;> try rfl
        rw [toAvro_array] at h; rw [toAvro_array, toAvro_array]
        rw [ih.toAvroItems item _ (h.imp (mt fun e => by rw [e]; rfl) (by simp only [Codec.sz, GoVal.sz]; omega))]
      case map val o =>
        cases g <;> try rfl
        rw [toAvro_map] at h; rw [toAvro_map, toAvro_map]
        rw [ih.toAvroItems val _ (h.imp (mt fun e => by rw [e]; rfl) (by simp only [Codec.sz, GoVal.sz]; omega))]
      case pointer c' =>
        cases g <;> try rfl
        rename_i t
        cases t with
        | none => rfl
        | some x =>
          rw [toAvro_ptr] at h; rw [toAvro_ptr, toAvro_ptr]
          exact ih.toAvro c' x (h.imp id (by simp only [Codec.sz, GoVal.sz]; omega))
      case record z cs ts =>
        cases g <;> try rfl
        rw [toAvro_record] at h; rw [toAvro_record, toAvro_record]
        rw [ih.toAvroFields cs ts _ (h.imp (mt fun e => by rw [e]; rfl) (by simp only [Codec.sz, GoVal.sz]; omega))]
      case unionOne c' nn =>
        rw [toAvro_unionOne] at h; rw [toAvro_unionOne, toAvro_unionOne]
        split
        · rfl
        · rename_i ho
          rw [ih.toAvro c' g (h.imp (mt fun e => by rw [e, if_neg ho]; rfl) (by simp only [Codec.sz]; omega))]
      all_goals (cases g <;> rfl)
    · intro c gs h
      cases gs with
      | nil => rfl
      | cons g gs =>
        rw [toAvroItems_cons] at h; rw [toAvroItems_cons, toAvroItems_cons]
        rw [ih.toAvro c g (h.imp (mt fun e => by rw [e]) (by simp only [GoVal.szList]; omega)),
          ih.toAvroItems c gs (h.imp (mt fun e => by rw [e]; cases toAvro env nullp n c g <;> rfl)
            (by simp only [GoVal.szList]; omega))]
    · intro cs ts fs h
      rcases cs with _ | ⟨c, cs⟩
      · rfl
      · rcases ts with _ | ⟨_ | i, ts⟩ <;> try rfl
        rw [toAvroFields_cons] at h; rw [toAvroFields_cons, toAvroFields_cons]
        split
        · rfl
        · rename_i g hg
          have := GoVal.sz_le_of_getElem? hg
          simp only [hg] at h
          rw [ih.toAvro c g (h.imp (mt fun e => by rw [e]) (by simp only [Codec.szList]; omega)),
            ih.toAvroFields cs ts fs (h.imp (mt fun e => by rw [e]; cases toAvro env nullp n c g <;> rfl)
              (by simp only [Codec.szList]; omega))]

/-- the only place where monotonicity of `toAvroItems` and `toAvroFields` is stated (`TStableAt`:
their sufficient budgets) -/
structure TMonoAt (n m : Nat) : Prop where
  toAvro : ∀ c g, OptLe (toAvro env nullp n c g) (toAvro env nullp m c g)
  toAvroItems : ∀ c gs, OptLe (toAvroItems env nullp n c gs) (toAvroItems env nullp m c gs)
  toAvroFields : ∀ cs ts fs, OptLe (toAvroFields env nullp n cs ts fs) (toAvroFields env nullp m cs ts fs)

theorem tMonoAt_le {n m : Nat} (h : n ≤ m) : TMonoAt env nullp n m where
  toAvro c g := step_mono (fun k => (tStepAt env nullp k).toAvro c g) h
  toAvroItems c gs := step_mono (fun k => (tStepAt env nullp k).toAvroItems c gs) h
  toAvroFields cs ts fs := step_mono (fun k => (tStepAt env nullp k).toAvroFields cs ts fs) h

theorem toAvro_mono {n m : Nat} (h : n ≤ m) {c : Codec} {g : GoVal} {v : Value}
    (hw : toAvro env nullp n c g = some v) : toAvro env nullp m c g = some v := by
  rw [(tMonoAt_le env nullp h).toAvro c g (by rw [hw]; nofun), hw]

structure TStableAt (n : Nat) : Prop where
  toAvro : ∀ c g m, c.sz + g.sz + 1 ≤ n → n ≤ m → toAvro env nullp m c g = toAvro env nullp n c g
  toAvroItems : ∀ c gs m, c.sz + GoVal.szList gs + 1 ≤ n → n ≤ m →
    toAvroItems env nullp m c gs = toAvroItems env nullp n c gs
  toAvroFields : ∀ cs ts fs m, Codec.szList cs + GoVal.szList fs + 1 ≤ n → n ≤ m →
    toAvroFields env nullp m cs ts fs = toAvroFields env nullp n cs ts fs

theorem tStableAt (n : Nat) : TStableAt env nullp n where
  toAvro c g _ := step_stable fun k => (tStepAt env nullp k).toAvro c g
  toAvroItems c gs _ := step_stable fun k => (tStepAt env nullp k).toAvroItems c gs
  toAvroFields cs ts fs _ := step_stable fun k => (tStepAt env nullp k).toAvroFields cs ts fs

theorem toAvro_stable (c : Codec) (g : GoVal) (m : Nat) (h : c.sz + g.sz + 1 ≤ m) :
    toAvro env nullp m c g = toAvro env nullp (c.sz + g.sz + 1) c g :=
  (tStableAt env nullp _).toAvro c g m (Nat.le_refl _) h

theorem mapFit_step {f f' : Value → Fit GoVal} {s n : Nat}
    (h : ∀ v, f v ≠ .illtyped ∨ s + v.sz + 1 ≤ n → f' v = f v) :
    ∀ vs, mapFit f vs ≠ .illtyped ∨ s + Value.szList vs ≤ n → mapFit f' vs = mapFit f vs
  | [], _ => rfl
  | v :: vs, hg => by
    rw [mapFit_cons] at hg
    rw [mapFit_cons, mapFit_cons, h v (hg.imp (mt fun e => by rw [e]; rfl) (by simp only [Value.szList]; omega))]
    cases hv : f v <;> try rfl
    rw [hv] at hg
    rw [mapFit_step h vs (hg.imp (mt fun e => by rw [e]; rfl) (by simp only [Value.szList]; omega))]

theorem fieldsFit_step {f f' : Codec → Value → GoVal → Fit GoVal} {n : Nat}
    (h : ∀ c v g, f c v g ≠ .illtyped ∨ c.sz + v.sz + 1 ≤ n → f' c v g = f c v g) :
    ∀ cs ts vs fs, fieldsFit f cs ts vs fs ≠ .illtyped ∨ Codec.szList cs + Value.szList vs ≤ n →
      fieldsFit f' cs ts vs fs = fieldsFit f cs ts vs fs := by
  intro cs ts vs fs
  fun_induction fieldsFit f cs ts vs fs <;> intro hg <;> simp only [fieldsFit] at hg ⊢
  case case2 ih => exact ih (hg.imp id (by simp only [Codec.szList, Value.szList]; omega))
  case case3 hcur => simp only [hcur]
  case case4 c cs i ts v vs fs cur hcur ih =>
    simp only [hcur] at hg ⊢
    rw [h c v cur (hg.imp (mt fun e => by rw [e]; rfl) (by simp only [Codec.szList, Value.szList]; omega))]
    cases hv : f c v cur <;> try rfl
    rw [hv] at hg
    exact ih _ (hg.imp id (by simp only [Codec.szList, Value.szList]; omega))

theorem ofAvro_step : ∀ n c v dst, ofAvro env n c v dst ≠ .illtyped ∨ c.sz + v.sz + 1 ≤ n →
    ofAvro env (n + 1) c v dst = ofAvro env n c v dst := by
  intro n
  induction n with
  | zero => intro c v dst h; exact h.elim (absurd rfl) (fun h => by omega)
  | succ n ih =>
    intro c v dst h
    cases c
    case array item o =>
      cases v <;> try rfl
      cases dst <;> try rfl
      rw [ofAvro_array] at h; rw [ofAvro_array, ofAvro_array]
      split
      · rfl
      · rename_i hl
        rw [mapFit_step (fun v => ih item v _) _
          (h.imp (mt fun e => by rw [e, if_neg hl]; rfl) (by simp only [Codec.sz, Value.sz]; omega))]
    case map val o =>
      cases v <;> try rfl
      cases dst <;> try rfl
      rw [ofAvro_map] at h; rw [ofAvro_map, ofAvro_map]
      rw [mapFit_step (fun v => ih val v _) _
        (h.imp (mt fun e => by rw [e]; rfl) (by simp only [Codec.sz, Value.sz]; omega))]
    case pointer c' =>
      cases dst <;> try rfl
      rename_i t
      cases t with
      | none =>
        rw [ofAvro_ptr_none] at h; rw [ofAvro_ptr_none, ofAvro_ptr_none]
        rw [ih c' v _ (h.imp (mt fun e => by rw [e]; rfl) (by simp only [Codec.sz]; omega))]
      | some x =>
        rw [ofAvro_ptr_some] at h; rw [ofAvro_ptr_some, ofAvro_ptr_some]
        rw [ih c' v _ (h.imp (mt fun e => by rw [e]; rfl) (by simp only [Codec.sz]; omega))]
    case record z cs ts =>
      cases v <;> try rfl
      cases dst <;> try rfl
      rw [ofAvro_record] at h; rw [ofAvro_record, ofAvro_record]
      rw [fieldsFit_step (fun c v g => ih c v g) _ _ _ _
        (h.imp (mt fun e => by rw [e]; rfl) (by simp only [Codec.sz, Value.sz]; omega))]
    case union cs =>
      cases v <;> try rfl
      rw [ofAvro_union] at h; rw [ofAvro_union, ofAvro_union]
      split
      · rename_i c' hc'
        have := Codec.sz_le_of_getElem? hc'
        simp only [hc'] at h
        exact ih c' _ _ (h.imp id (by simp only [Codec.sz, Value.sz]; omega))
      · rfl
    case unionOne c' nn =>
      cases v <;> try rfl
      rw [ofAvro_unionOne] at h; rw [ofAvro_unionOne, ofAvro_unionOne]
      split
      · rfl
      · split
        · rename_i h2 hi
          rw [if_neg h2, if_pos hi] at h
          exact ih c' _ _ (h.imp id (by simp only [Codec.sz, Value.sz]; omega))
        · rfl
    all_goals (cases v <;> rfl)

theorem ofAvro_mono {n m : Nat} (h : n ≤ m) {c : Codec} {v : Value} {dst : GoVal}
    (hr : ofAvro env n c v dst ≠ .illtyped) : ofAvro env m c v dst = ofAvro env n c v dst :=
  step_mono (fun k => ofAvro_step env k c v dst) h hr

theorem ofAvro_stable (c : Codec) (v : Value) (dst : GoVal) (m : Nat) (h : c.sz + v.sz + 1 ≤ m) :
    ofAvro env m c v dst = ofAvro env (c.sz + v.sz + 1) c v dst :=
  step_stable (fun k => ofAvro_step env k c v dst) (Nat.le_refl _) h

end Avro
