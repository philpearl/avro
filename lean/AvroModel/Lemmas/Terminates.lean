import AvroModel.Lemmas.ReadLaws
import AvroModel.Lemmas.Bytes
/-!
Termination of the decoder model: for every codec tree, every input and every destination there is
a step budget from which on `read` / `skip` return the same outcome, and that outcome is not
`.fuel`.

The only assumption is about the user-registered custom codecs, which the model treats as black
boxes over bytes: they must not return more unread input than they were given (`Env.Sane`). Without
it the statement is false (`skipBlocks_diverges`, `readMapBlocks_diverges` below).
-/
namespace Avro

/-- user-registered codecs return a remainder no longer than their input -/
structure Env.Sane (env : Env) : Prop where
  read : ∀ id bs v r, (env.custom id).read bs = some (v, r) → r.length ≤ bs.length
  skip : ∀ id bs r, (env.custom id).skip bs = some r → r.length ≤ bs.length

/-- no input is given back: a successful result leaves at most `L` bytes unread (`p` projects a result to its
unread input) -/
def LenLe {α : Type} (p : α → Bytes) (L : Nat) (o : Outcome α) : Prop :=
  ∀ a, o = .ok a → (p a).length ≤ L

theorem LenLe.ok {α : Type} {p : α → Bytes} {L : Nat} {a : α} (h : (p a).length ≤ L) : LenLe p L (.ok a) := by
  intro b hb; cases hb; exact h
theorem LenLe.err {α : Type} {p : α → Bytes} {L : Nat} : LenLe p L (.err : Outcome α) := by intro b hb; cases hb
theorem LenLe.stuck {α : Type} {p : α → Bytes} {L : Nat} : LenLe p L (.stuck : Outcome α) := by intro b hb; cases hb
theorem LenLe.fuel {α : Type} {p : α → Bytes} {L : Nat} : LenLe p L (.fuel : Outcome α) := by intro b hb; cases hb

theorem LenLe.bind {α β : Type} {p : α → Bytes} {q : β → Bytes} {L : Nat} {o : Outcome α} {f : α → Outcome β}
    (h1 : LenLe p L o) (h2 : ∀ a, o = .ok a → LenLe q (p a).length (f a)) : LenLe q L (Outcome.bind o f) := by
  cases o with
  | ok a => exact fun b hb => Nat.le_trans (h2 a rfl b hb) (h1 a rfl)
  | _ => nofun

theorem rdVarint_lt {bs : Bytes} {p : Int × Bytes} (h : rdVarint bs = .ok p) : p.2.length < bs.length := by
  unfold rdVarint at h
  split at h
  · rename_i q hq
    cases h
    exact readVarint_len (v := _) (rest := _) hq
  · cases h

theorem rdVarint_len (bs : Bytes) : LenLe Prod.snd bs.length (rdVarint bs) :=
  fun _ hp => Nat.le_of_lt (rdVarint_lt hp)

theorem rdInt_len (w : Nat) (bs : Bytes) : LenLe Prod.snd bs.length (rdInt w bs) :=
  fun _ hp => Nat.le_of_lt (readVarint_len (rdInt_eq_ok hp).1)

theorem rdByte_len (bs : Bytes) : LenLe Prod.snd bs.length (rdByte bs) := by
  intro p hp
  cases bs with
  | nil => cases hp
  | cons b r => cases hp; exact Nat.le_succ _

theorem next_len (l : Int) (bs : Bytes) : LenLe Prod.snd bs.length (next l bs) := by
  intro p hp
  obtain ⟨_, _, rfl⟩ := next_eq_ok hp
  simp only [List.length_drop]; omega

variable (env : Env)

theorem len_law (hs : env.Sane) : StepLaw env fun p bs o _ => LenLe p bs.length o where
  fuel _ _ _ := LenLe.fuel
  ok _ _ := LenLe.ok (Nat.le_refl _)
  err _ _ := LenLe.err
  bind := LenLe.bind
  rdVarint := rdVarint_len
  rdInt := rdInt_len
  rdByte := rdByte_len
  next := next_len
  customRead cid bs v r h := LenLe.ok (hs.read cid bs v r h)
  customSkip cid bs r h := LenLe.ok (hs.skip cid bs r h)

theorem lenRead (hs : env.Sane) (n : Nat) : (len_law env hs).ReadAt n n :=
  (len_law env hs).readAt (fun _ _ => LenLe.stuck) n 0

theorem lenSkip (hs : env.Sane) (n : Nat) : (len_law env hs).SkipAt n n :=
  (len_law env hs).skipAt n 0

/-- termination of a computation whose outcome at step budget `n` is `f n`: from some budget on the outcome no
longer depends on the budget and is not "out of budget" -/
def Ev {α : Type} (f : Nat → Outcome α) : Prop := ∃ n r, r ≠ .fuel ∧ ∀ m, n ≤ m → f m = r

theorem Ev.const {α : Type} {o : Outcome α} (h : o ≠ .fuel) : Ev (fun _ => o) := ⟨0, o, h, fun _ _ => rfl⟩

theorem Ev.stable {α : Type} {f : Nat → Outcome α} (h : Ev f) :
    ∃ n, ∀ m, n ≤ m → f m = f n ∧ f n ≠ .fuel := by
  obtain ⟨n, r, hr, hst⟩ := h
  refine ⟨n, fun m hm => ?_⟩
  rw [hst m hm, hst n (Nat.le_refl _)]
  exact ⟨rfl, hr⟩

theorem Ev.succ {α : Type} {F : Nat → Outcome α} (h : Ev (fun n => F (n + 1))) : Ev F := by
  obtain ⟨n, r, hr, hst⟩ := h
  refine ⟨n + 1, r, hr, fun m hm => ?_⟩
  obtain ⟨k, rfl⟩ : ∃ k, m = k + 1 := ⟨m - 1, by omega⟩
  exact hst k (by omega)

theorem Ev.bind {α β : Type} {g : Nat → Outcome α} {h : Nat → α → Outcome β} (hg : Ev g)
    (hh : ∀ a, (∃ n, g n = .ok a) → Ev (fun m => h m a)) : Ev (fun n => Outcome.bind (g n) (h n)) := by
  obtain ⟨n0, r, hr, hst⟩ := hg
  cases r with
  | ok a =>
    obtain ⟨n1, r1, hr1, hst1⟩ := hh a ⟨n0, hst n0 (Nat.le_refl _)⟩
    refine ⟨max n0 n1, r1, hr1, fun m hm => ?_⟩
    have h0 : n0 ≤ m := by omega
    have h1 : n1 ≤ m := by omega
    simp only [hst m h0, Outcome.bind_ok']
    exact hst1 m h1
  | fuel => exact absurd rfl hr
  | err => exact ⟨n0, .err, by simp, fun m hm => by simp only [hst m hm, Outcome.bind_err']⟩
  | panic => exact ⟨n0, .panic, by simp, fun m hm => by simp only [hst m hm, Outcome.bind_panic']⟩
  | stuck => exact ⟨n0, .stuck, by simp, fun m hm => by simp only [hst m hm, Outcome.bind_stuck']⟩

theorem Ev.ok {α : Type} (a : α) : Ev (fun _ => Outcome.ok a) := Ev.const nofun
theorem Ev.err {α : Type} : Ev (fun _ => (Outcome.err : Outcome α)) := Ev.const nofun
theorem Ev.stuck {α : Type} : Ev (fun _ => (Outcome.stuck : Outcome α)) := Ev.const nofun
theorem Ev.panic {α : Type} : Ev (fun _ => (Outcome.panic : Outcome α)) := Ev.const nofun

theorem Ev.prim {α β : Type} {o : Outcome α} (ho : o ≠ .fuel) {h : Nat → α → Outcome β}
    (hh : ∀ a, o = .ok a → Ev (fun m => h m a)) : Ev (fun n => Outcome.bind o (h n)) :=
  Ev.bind (Ev.const ho) fun a ⟨_, ha⟩ => hh a ha

/-- codec `c` terminates (`Ev`) on every input and destination -/
structure Halts (c : Codec) : Prop where
  read : ∀ bs dst, Ev (fun n => read env n c bs dst)
  skip : ∀ bs, Ev (fun n => skip env n c bs)

theorem halts_prim {c : Codec} (h : c.isPrim = true) : Halts env c where
  read bs dst := Ev.succ <| by simp only [read_prim env h]; exact Ev.const ((neFuel_prim env).readPrim h bs dst)
  skip bs := Ev.succ <| by simp only [skip_prim env h]; exact Ev.const ((neFuel_prim env).skipPrim h bs)

theorem halts_unionNullString (oe : Bool) (nn : Nat) : Halts env (.unionNullString oe nn) where
  read bs dst := Ev.succ <| by
    simp only [read, Outcome.bind_eq, Outcome.pure_eq]
    refine Ev.prim (rdByte_okOrErr bs).ne_fuel fun a _ => ?_
    split
    · exact Ev.err
    · split
      · exact (halts_prim env (c := .string false) rfl).read _ _
      · exact Ev.ok _
  skip bs := Ev.succ <| by
    simp only [skip, Outcome.bind_eq, Outcome.pure_eq]
    refine Ev.prim (rdByte_okOrErr bs).ne_fuel fun a _ => ?_
    split
    · exact Ev.err
    · split
      · exact Ev.const ((neFuel_prim env).skipLen _)
      · exact Ev.ok _

theorem halts_nullInner (k : NullKind) : Halts env (nullInner k) := by
  cases k <;> exact halts_prim env rfl

theorem halts_nullw (k : NullKind) : Halts env (.nullw k) where
  read bs dst := Ev.succ <| by
    simp only [read, Outcome.bind_eq, Outcome.pure_eq]
    exact Ev.bind ((halts_nullInner env k).read _ _) fun _ _ => Ev.ok _
  skip bs := by
    have e : ∀ n, skip env n (.nullw k) bs = skip env n (nullInner k) bs := fun n => by cases n <;> cases k <;> rfl
    simp only [e]; exact (halts_nullInner env k).skip bs

theorem ev_readItems {item : Codec} (hT : Halts env item) :
    ∀ k bs acc, Ev (fun n => readItems env n item k bs acc)
  | 0, bs, acc => Ev.succ (Ev.ok _)
  | k + 1, bs, acc => by
    apply Ev.succ; simp only [readItems, Outcome.bind_eq]
    refine Ev.bind (hT.read _ _) (fun _ _ => ?_)
    exact ev_readItems hT k _ _

theorem ev_readMapItems {val : Codec} (hT : Halts env val) :
    ∀ k bs ks vs, Ev (fun n => readMapItems env n val k bs ks vs)
  | 0, bs, ks, vs => Ev.succ (Ev.ok _)
  | k + 1, bs, ks, vs => by
    apply Ev.succ; simp only [readMapItems, Outcome.bind_eq]
    refine Ev.prim (rdVarint_okOrErr _).ne_fuel (fun _ _ => ?_)
    split
    · exact Ev.err
    · refine Ev.prim (next_okOrErr _ _).ne_fuel (fun _ _ => ?_)
      refine Ev.bind (hT.read _ _) (fun _ _ => ?_)
      exact ev_readMapItems hT k _ _ _

theorem ev_skipItems {item : Codec} (hT : Halts env item) (keyed : Bool) :
    ∀ k bs, Ev (fun n => skipItems env n keyed item k bs)
  | 0, bs => Ev.succ (Ev.ok _)
  | k + 1, bs => by
    apply Ev.succ; simp only [skipItems, Outcome.bind_eq, Outcome.pure_eq]
    split
    · refine Ev.prim ((neFuel_prim env).skipLen _) (fun _ _ => ?_)
      refine Ev.bind (hT.skip _) (fun _ _ => ?_)
      exact ev_skipItems hT keyed k _
    · simp only [Outcome.bind_ok']
      refine Ev.bind (hT.skip _) (fun _ _ => ?_)
      exact ev_skipItems hT keyed k _

/-- every block header consumes at least one byte, and the items of the block give none back:
the block loop runs at most `bs.length` times -/
theorem ev_readArrayBlocks (hs : env.Sane) {item : Codec} (hT : Halts env item) :
    ∀ L bs acc, bs.length < L → Ev (fun n => readArrayBlocks env n item bs acc) := by
  intro L
  induction L with
  | zero => intro bs acc h; omega
  | succ L ih =>
    intro bs acc hL
    apply Ev.succ; simp only [readArrayBlocks, Outcome.bind_eq, Outcome.pure_eq]
    refine Ev.prim (rdVarint_okOrErr _).ne_fuel (fun p hp => ?_)
    have h1 := rdVarint_lt hp
    split
    · exact Ev.ok _
    · refine Ev.prim ((neFuel_prim env).arrayBlockCount _ _ _) (fun q hq => ?_)
      have h2 := (len_law env hs).arrayBlockCount _ _ _ q hq
      refine Ev.bind (ev_readItems env hT _ _ _) (fun x hx => ?_)
      obtain ⟨n, hx⟩ := hx
      have h3 := (lenRead env hs n).readItems _ _ _ _ x hx
      exact ih _ _ (by omega)

theorem ev_readMapBlocks (hs : env.Sane) {val : Codec} (hT : Halts env val) :
    ∀ L bs ks vs, bs.length < L → Ev (fun n => readMapBlocks env n val bs ks vs) := by
  intro L
  induction L with
  | zero => intro bs ks vs h; omega
  | succ L ih =>
    intro bs ks vs hL
    apply Ev.succ; simp only [readMapBlocks, Outcome.bind_eq, Outcome.pure_eq]
    refine Ev.prim (rdVarint_okOrErr _).ne_fuel (fun p hp => ?_)
    have h1 := rdVarint_lt hp
    split
    · exact Ev.ok _
    · refine Ev.prim ((neFuel_prim env).blockCount _ _) (fun q hq => ?_)
      have h2 := (len_law env hs).blockCount _ _ q hq
      refine Ev.bind (ev_readMapItems env hT _ _ _ _) (fun x hx => ?_)
      obtain ⟨n, hx⟩ := hx
      have h3 := (lenRead env hs n).readMapItems _ _ _ _ _ x hx
      exact ih _ _ _ (by omega)

theorem ev_skipBlocks (hs : env.Sane) {item : Codec} (hT : Halts env item) (keyed : Bool) :
    ∀ L bs, bs.length < L → Ev (fun n => skipBlocks env n keyed item bs) := by
  intro L
  induction L with
  | zero => intro bs h; omega
  | succ L ih =>
    intro bs hL
    apply Ev.succ; simp only [skipBlocks, Outcome.bind_eq, Outcome.pure_eq]
    refine Ev.prim (rdVarint_okOrErr _).ne_fuel (fun p hp => ?_)
    have h1 := rdVarint_lt hp
    split
    · exact Ev.ok _
    · split
      · refine Ev.prim (rdVarint_okOrErr _).ne_fuel (fun q hq => ?_)
        have h2 := rdVarint_lt hq
        refine Ev.prim ((neFuel_prim env).skipN _ _) (fun x hx => ?_)
        have h3 := (len_law env hs).skipN _ _ x hx
        simp only [id] at h3
        exact ih _ (by omega)
      · refine Ev.bind (ev_skipItems env hT keyed _ _) (fun x hx => ?_)
        obtain ⟨n, hx⟩ := hx
        have h3 := (lenSkip env hs n).skipItems _ _ _ _ x hx
        simp only [id] at h3
        exact ih _ (by omega)

theorem ev_skipFields : ∀ (cs : List Codec), (∀ c ∈ cs, Halts env c) → ∀ bs, Ev (fun n => skipFields env n cs bs)
  | [], _, bs => Ev.succ (Ev.ok _)
  | c :: cs, h, bs => by
    apply Ev.succ; simp only [skipFields, Outcome.bind_eq]
    refine Ev.bind ((h c (by simp)).skip _) (fun _ _ => ?_)
    exact ev_skipFields cs (fun c' hc' => h c' (by simp [hc'])) _

theorem ev_readFields : ∀ (cs : List Codec), (∀ c ∈ cs, Halts env c) →
    ∀ ts bs fs, Ev (fun n => readFields env n cs ts bs fs)
  | [], _, ts, bs, fs => Ev.succ (Ev.ok _)
  | c :: cs, h, [], bs, fs => Ev.succ Ev.stuck
  | c :: cs, h, none :: ts, bs, fs => by
    apply Ev.succ; simp only [readFields, Outcome.bind_eq]
    refine Ev.bind ((h c (by simp)).skip _) (fun _ _ => ?_)
    exact ev_readFields cs (fun c' hc' => h c' (by simp [hc'])) _ _ _
  | c :: cs, h, some i :: ts, bs, fs => by
    apply Ev.succ; simp only [readFields, Outcome.bind_eq]
    split
    · exact Ev.stuck
    · refine Ev.bind ((h c (by simp)).read _ _) (fun _ _ => ?_)
      exact ev_readFields cs (fun c' hc' => h c' (by simp [hc'])) _ _ _

theorem halts_array (hs : env.Sane) {item : Codec} (hT : Halts env item) (oe : Bool) :
    Halts env (.array item oe) := by
  have h1 := fun bs acc => ev_readArrayBlocks env hs hT (bs.length + 1) bs acc (Nat.lt_succ_self _)
  have h2 := fun keyed bs => ev_skipBlocks env hs hT keyed (bs.length + 1) bs (Nat.lt_succ_self _)
  constructor
  · intro bs dst; apply Ev.succ; simp only [read, Outcome.bind_eq, Outcome.pure_eq]
    split
    · refine Ev.bind (h1 _ _) (fun _ _ => Ev.ok _)
    · exact Ev.stuck
  · intro bs; apply Ev.succ; simp only [skip]; exact h2 _ _

theorem halts_map (hs : env.Sane) {val : Codec} (hT : Halts env val) (oe : Bool) :
    Halts env (.map val oe) := by
  have h1 := fun bs ks vs => ev_readMapBlocks env hs hT (bs.length + 1) bs ks vs (Nat.lt_succ_self _)
  have h2 := fun keyed bs => ev_skipBlocks env hs hT keyed (bs.length + 1) bs (Nat.lt_succ_self _)
  constructor
  · intro bs dst; apply Ev.succ; simp only [read, Outcome.bind_eq, Outcome.pure_eq]
    split
    · refine Ev.bind (h1 _ _ _) (fun _ _ => Ev.ok _)
    · exact Ev.stuck
  · intro bs; apply Ev.succ; simp only [skip]; exact h2 _ _

theorem halts_pointer {c : Codec} (hT : Halts env c) : Halts env (.pointer c) where
  read bs dst := Ev.succ <| by
    simp only [read, Outcome.bind_eq, Outcome.pure_eq]
    split
    · exact Ev.bind (hT.read _ _) fun _ _ => Ev.ok _
    · exact Ev.bind (hT.read _ _) fun _ _ => Ev.ok _
    · exact Ev.stuck
  skip bs := Ev.succ (hT.skip bs)

theorem halts_unionOne {c : Codec} (hT : Halts env c) (nn : Nat) : Halts env (.unionOne c nn) where
  read bs dst := Ev.succ <| by
    simp only [read, Outcome.bind_eq, Outcome.pure_eq]
    refine Ev.prim (rdByte_okOrErr bs).ne_fuel fun a _ => ?_
    split
    · exact Ev.err
    · split
      · exact hT.read _ _
      · exact Ev.ok _
  skip bs := Ev.succ <| by
    simp only [skip, Outcome.bind_eq, Outcome.pure_eq]
    refine Ev.prim (rdByte_okOrErr bs).ne_fuel fun a _ => ?_
    split
    · exact Ev.err
    · split
      · exact hT.skip _
      · exact Ev.ok _

theorem halts_record (z : List GoVal) {cs : List Codec} (h : ∀ c ∈ cs, Halts env c) (ts : List (Option Nat)) :
    Halts env (.record z cs ts) := by
  constructor
  · intro bs dst; apply Ev.succ; simp only [read, Outcome.bind_eq, Outcome.pure_eq]
    split
    · refine Ev.bind (ev_readFields env cs h _ _ _) (fun _ _ => Ev.ok _)
    · exact Ev.stuck
  · intro bs; apply Ev.succ; simp only [skip]; exact ev_skipFields env cs h _

theorem halts_union {cs : List Codec} (h : ∀ c ∈ cs, Halts env c) : Halts env (.union cs) := by
  constructor
  · intro bs dst; apply Ev.succ; simp only [read, Outcome.bind_eq]
    refine Ev.prim (rdVarint_okOrErr _).ne_fuel (fun _ _ => ?_)
    split
    · exact Ev.err
    · split
      · rename_i c' hc'
        exact (h c' (List.mem_of_getElem? hc')).read _ _
      · exact Ev.panic
  · intro bs; apply Ev.succ; simp only [skip, Outcome.bind_eq]
    refine Ev.prim (rdVarint_okOrErr _).ne_fuel (fun _ _ => ?_)
    split
    · exact Ev.err
    · split
      · rename_i c' hc'
        exact (h c' (List.mem_of_getElem? hc')).skip _
      · exact Ev.panic

theorem halts (hs : env.Sane) : ∀ c, Halts env c
  | .null | .bool _ | .int _ _ | .float _ | .double _ | .f32double _ | .bytes _ | .string _ | .fixed _
  | .timeString | .timeLong _ | .date | .custom _ => halts_prim env rfl
  | .array item _ => halts_array env hs (halts hs item) _
  | .map val _ => halts_map env hs (halts hs val) _
  | .pointer c => halts_pointer env (halts hs c)
  | .record _ cs _ => halts_record env _ (fun c _ => halts hs c) _
  | .union cs => halts_union env (fun c _ => halts hs c)
  | .unionOne c _ => halts_unionOne env (halts hs c) _
  | .unionNullString _ _ => halts_unionNullString env _ _
  | .nullw _ => halts_nullw env _

/-- an environment whose custom codec 0 "un-reads": it returns two bytes `[2, 0]` of unread input
whatever it is given -/
def envGrow : Env where
  widen := id
  narrow := id
  fmtTime := fun _ => []
  parseTime := fun _ => none
  ofNanos := fun _ => TimeVal.zero
  ofDays := fun _ => TimeVal.zero
  custom := fun _ =>
    { read := fun _ => some (.unit, [2, 0]), skip := fun _ => some [2, 0], write := fun _ => [],
      omits := fun _ => false, zero := .unit }

theorem envGrow_not_sane : ¬ envGrow.Sane := by
  intro h
  have := h.skip 0 [] [2, 0] rfl
  simp at this

theorem skipItems_envGrow (n : Nat) :
    skipItems envGrow n false (.custom 0) 1 [0] = .fuel ∨ skipItems envGrow n false (.custom 0) 1 [0] = .ok [2, 0] := by
  rcases n with _ | _ | _ | n
  · left; rfl
  · left; rfl
  · right; rfl
  · right; rfl

/-- without `Env.Sane` the model does not terminate: the array block `[2, 0]` (one item, then the
end marker) skipped with an item codec that hands `[2, 0]` back is skipped again and again -/
theorem skipBlocks_diverges : ∀ n, skipBlocks envGrow n false (.custom 0) [2, 0] = .fuel
  | 0 => rfl
  | n + 1 => by
    have h1 : rdVarint [2, 0] = .ok (1, [0]) := by rfl
    simp only [skipBlocks, Outcome.bind_eq, Outcome.pure_eq, h1, Outcome.bind_ok']
    have h2 : ¬ ((1 : Int) = 0) := by decide
    have h3 : ¬ ((1 : Int) < 0) := by decide
    simp only [h2, h3, if_false]
    have h4 : (1 : Int).toNat = 1 := rfl
    rw [h4]
    rcases skipItems_envGrow n with h | h <;> rw [h]
    · rfl
    · simp only [Outcome.bind_ok']; exact skipBlocks_diverges n

theorem skip_diverges (n : Nat) : skip envGrow n (.array (.custom 0) false) [2, 0] = .fuel := by
  cases n with
  | zero => rfl
  | succ n => simp only [skip]; exact skipBlocks_diverges n

theorem readMapItems_envGrow (n : Nat) (ks : List Bytes) (vs : List GoVal) :
    readMapItems envGrow n (.custom 0) 1 [0] ks vs = .fuel ∨
    ∃ ks' vs', readMapItems envGrow n (.custom 0) 1 [0] ks vs = .ok ((ks', vs'), [2, 0]) := by
  rcases n with _ | _ | _ | n
  · left; rfl
  · left; rfl
  · right; exact ⟨_, _, rfl⟩
  · right; exact ⟨_, _, rfl⟩

theorem readMapBlocks_diverges : ∀ n ks vs, readMapBlocks envGrow n (.custom 0) [2, 0] ks vs = .fuel
  | 0, _, _ => rfl
  | n + 1, ks, vs => by
    have h1 : rdVarint [2, 0] = .ok (1, [0]) := by rfl
    simp only [readMapBlocks, Outcome.bind_eq, Outcome.pure_eq, h1, Outcome.bind_ok']
    have h2 : ¬ ((1 : Int) = 0) := by decide
    have h3 : blockCount 1 [0] = .ok (1, [0]) := by rfl
    simp only [h2, h3, if_false, Outcome.bind_ok']
    rcases readMapItems_envGrow n ks vs with h | ⟨ks', vs', h⟩ <;> rw [h]
    · rfl
    · simp only [Outcome.bind_ok']; exact readMapBlocks_diverges n _ _

theorem read_diverges (n : Nat) :
    read envGrow n (.map (.custom 0) false) [2, 0] (.map true [] []) = .fuel := by
  cases n with
  | zero => rfl
  | succ n => simp only [read, Outcome.bind_eq, readMapBlocks_diverges n, Outcome.bind_fuel']

/-- an environment whose custom codecs read one varint (a user-defined integer type); it is sane, so
`Env.Sane` is not vacuous -/
def envVarint : Env where
  widen := id
  narrow := id
  fmtTime := fun _ => []
  parseTime := fun _ => none
  ofNanos := fun _ => TimeVal.zero
  ofDays := fun _ => TimeVal.zero
  custom := fun cid =>
    { read := fun bs => match readVarint bs with
        | .ok (v, r) => some (.opaque cid (writeVarint v), r)
        | .error _ => none
      skip := fun bs => match readVarint bs with
        | .ok (_, r) => some r
        | .error _ => none
      write := fun g => match g with | .opaque _ b => b | _ => []
      omits := fun _ => false
      zero := .opaque cid [0] }

theorem envVarint_sane : envVarint.Sane := by
  constructor
  · intro cid bs v r h
    simp only [envVarint] at h
    split at h
    · rename_i hv; cases h; exact Nat.le_of_lt (readVarint_len hv)
    · cases h
  · intro cid bs r h
    simp only [envVarint] at h
    split at h
    · rename_i hv; cases h; exact Nat.le_of_lt (readVarint_len hv)
    · cases h

end Avro
