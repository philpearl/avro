import AvroModel.Wire
/-! Inversion lemmas for the specification encoder: what `encode p s v = some bs` says for each schema, and how
the items or entries of a block relate to their encodings (`ItemsEnc`, `EntryD`, `encBlocks_cons_split`). -/
namespace Avro

theorem encode_null_inv {p v bs} (h : encode p .null v = some bs) : v = .null ∧ bs = [] := by
  cases v <;> simp [encode] at h; exact ⟨rfl, h⟩

theorem encode_boolean_inv {p v bs} (h : encode p .boolean v = some bs) : ∃ b, v = .bool b ∧ bs = writeBool b := by
  cases v <;> simp [encode] at h; exact ⟨_, rfl, h.symm⟩

theorem encode_int_inv {p v bs} (h : encode p .int v = some bs) : ∃ i, v = .int i ∧ inRange 32 i ∧ bs = writeVarint i := by
  cases v <;> simp [encode] at h; exact ⟨_, rfl, h.1, h.2.symm⟩

theorem encode_long_inv {p v bs} (h : encode p .long v = some bs) : ∃ i, v = .int i ∧ inRange 64 i ∧ bs = writeVarint i := by
  cases v <;> simp [encode] at h; exact ⟨_, rfl, h.1, h.2.symm⟩

theorem encode_float_inv {p v bs} (h : encode p .float v = some bs) : ∃ b, v = .float b ∧ b < 2 ^ 32 ∧ bs = putLE 4 b := by
  cases v <;> simp [encode] at h; exact ⟨_, rfl, h.1, h.2.symm⟩

theorem encode_double_inv {p v bs} (h : encode p .double v = some bs) : ∃ b, v = .double b ∧ b < 2 ^ 64 ∧ bs = putLE 8 b := by
  cases v <;> simp [encode] at h; exact ⟨_, rfl, h.1, h.2.symm⟩

theorem encode_bytes_inv {p v bs} (h : encode p .bytes v = some bs) : ∃ b, v = .bytes b ∧ b.length < 2 ^ 63 ∧ bs = encBytes b := by
  cases v <;> simp [encode] at h; exact ⟨_, rfl, h.1, h.2.symm⟩

theorem encode_string_inv {p v bs} (h : encode p .string v = some bs) : ∃ b, v = .bytes b ∧ b.length < 2 ^ 63 ∧ bs = encBytes b := by
  cases v <;> simp [encode] at h; exact ⟨_, rfl, h.1, h.2.symm⟩

theorem encode_fixed_inv {p n v bs} (h : encode p (.fixed n) v = some bs) : v = .bytes bs ∧ bs.length = n := by
  cases v <;> simp [encode] at h; obtain ⟨h1, h2⟩ := h; subst h2; exact ⟨rfl, h1⟩

theorem encode_enum_inv {p n v bs} (h : encode p (.enum n) v = some bs) :
    ∃ i, v = .int i ∧ 0 ≤ i ∧ i < (n : Int) ∧ inRange 64 i ∧ bs = writeVarint i := by
  cases v <;> simp [encode] at h; exact ⟨_, rfl, h.1.1, h.1.2.1, h.1.2.2, h.2.symm⟩

theorem encode_record_inv {p ns fs v bs} (h : encode p (.record ns fs) v = some bs) :
    ∃ bl subs vs, p = .node bl subs ∧ v = .record vs ∧ encodeFields subs fs vs = some bs := by
  cases v <;> cases p <;> simp [encode] at h
  exact ⟨_, _, _, rfl, rfl, h⟩

theorem encode_array_inv {p items v bs} (h : encode p (.array items) v = some bs) :
    ∃ bl subs vs encs, p = .node bl subs ∧ v = .array vs ∧ encodeItems subs items vs = some encs ∧
      encBlocks bl encs = some bs := by
  cases v <;> cases p <;> simp only [encode] at h <;> try (cases h; done)
  rename_i vs bl subs
  split at h
  · cases h
  · rename_i encs he; exact ⟨_, _, _, encs, rfl, rfl, he, h⟩

theorem encode_map_inv {p values v bs} (h : encode p (.map values) v = some bs) :
    ∃ bl subs ks vs encs, p = .node bl subs ∧ v = .map ks vs ∧ ks.length = vs.length ∧
      (∀ k ∈ ks, k.length < 2 ^ 63) ∧ encodeItems subs values vs = some encs ∧
      encBlocks bl (List.zipWith (fun k e => encBytes k ++ e) ks encs) = some bs := by
  cases v <;> cases p <;> simp only [encode] at h <;> try (cases h; done)
  rename_i ks vs bl subs
  split at h
  · cases h
  · rename_i hg
    split at h
    · cases h
    · rename_i encs he
      obtain ⟨hl, ha⟩ := not_or.mp hg
      refine ⟨_, _, _, _, encs, rfl, rfl, Decidable.not_not.mp hl, fun k hk => ?_, he, h⟩
      simpa using List.all_eq_true.mp (Decidable.not_not.mp ha) k hk

theorem encode_union_inv {p branches v bs} (h : encode p (.union branches) v = some bs) :
    ∃ bl idx v' b p' e, p = .node bl [p'] ∧ v = .union idx v' ∧ branches[idx]? = some b ∧
      encode p' b v' = some e ∧ idx < 2 ^ 63 ∧ bs = writeVarint idx ++ e := by
  cases v <;> cases p <;> (try (simp [encode] at h; done))
  rename_i idx v' bl subs
  cases subs with
  | nil => simp [encode] at h
  | cons p' ps =>
    cases ps with
    | cons _ _ => simp [encode] at h
    | nil =>
      cases hb : branches[idx]? with
      | none => simp [encode, hb] at h
      | some b =>
        cases he : encode p' b v' with
        | none => simp [encode, hb, he] at h
        | some e =>
          simp [encode, hb, he] at h
          exact ⟨bl, idx, v', b, p', e, rfl, rfl, hb, he, h.1, h.2.symm⟩

theorem encodeFields_nil_inv {ps vs bs} (h : encodeFields ps [] vs = some bs) : ps = [] ∧ vs = [] ∧ bs = [] := by
  cases ps <;> cases vs <;> simp [encodeFields] at h
  exact ⟨rfl, rfl, h⟩

theorem encodeFields_cons_inv {ps s ss vs bs} (h : encodeFields ps (s :: ss) vs = some bs) :
    ∃ p ps' v vs' a b, ps = p :: ps' ∧ vs = v :: vs' ∧ encode p s v = some a ∧
      encodeFields ps' ss vs' = some b ∧ bs = a ++ b := by
  cases ps <;> cases vs <;> simp only [encodeFields] at h <;> try (cases h; done)
  rename_i p ps' v vs'
  split at h
  · rename_i a b ha hb; cases h; exact ⟨p, ps', v, vs', a, b, rfl, rfl, ha, hb, rfl⟩
  · cases h

inductive All2 {α β : Type} (R : α → β → Prop) : List α → List β → Prop where
  | nil : All2 R [] []
  | cons {a b as bs} : R a b → All2 R as bs → All2 R (a :: as) (b :: bs)

theorem All2.length_eq {α β : Type} {R : α → β → Prop} {as : List α} {bs : List β} (h : All2 R as bs) : as.length = bs.length := by
  induction h with
  | nil => rfl
  | cons _ _ ih => simp [ih]

theorem All2.take {α β : Type} {R : α → β → Prop} {as : List α} {bs : List β} (h : All2 R as bs) (n : Nat) :
    All2 R (as.take n) (bs.take n) := by
  induction h generalizing n with
  | nil => simp; exact .nil
  | cons hr _ ih =>
    cases n with
    | zero => simp; exact .nil
    | succ n => simp; exact .cons hr (ih n)

theorem All2.drop {α β : Type} {R : α → β → Prop} {as : List α} {bs : List β} (h : All2 R as bs) (n : Nat) :
    All2 R (as.drop n) (bs.drop n) := by
  induction h generalizing n with
  | nil => simp; exact .nil
  | cons hr ht ih =>
    cases n with
    | zero => simp; exact .cons hr ht
    | succ n => simp; exact ih n

theorem zip_map_fst {α β : Type} (as : List α) (bs : List β) (h : as.length = bs.length) : (as.zip bs).map (·.1) = as :=
  List.map_fst_zip (Nat.le_of_eq h)

theorem zip_map_snd {α β : Type} (as : List α) (bs : List β) (h : as.length = bs.length) : (as.zip bs).map (·.2) = bs :=
  List.map_snd_zip (Nat.le_of_eq h.symm)

abbrev ItemsEnc (s : ASchema) (vs : List Value) (es : List Bytes) : Prop :=
  All2 (fun v e => ∃ p, encode p s v = some e) vs es

theorem encodeItems_inv {s : ASchema} : ∀ {ps : List Plan} {vs : List Value} {encs : List Bytes},
    encodeItems ps s vs = some encs → ItemsEnc s vs encs := by
  intro ps vs
  induction vs generalizing ps with
  | nil =>
    intro encs h
    cases ps <;> simp [encodeItems] at h
    subst h; exact .nil
  | cons v vs ih =>
    intro encs h
    cases ps with
    | nil => simp [encodeItems] at h
    | cons p ps =>
      simp only [encodeItems] at h
      split at h
      · rename_i a b ha hb; cases h
        exact .cons ⟨p, ha⟩ (ih hb)
      · cases h

theorem encBlocks_nil_inv {es bs} (h : encBlocks [] es = some bs) : es = [] ∧ bs = writeVarint 0 := by
  cases es <;> simp [encBlocks] at h
  exact ⟨rfl, h.symm⟩

theorem encBlocks_cons_inv {n sized bl es bs} (h : encBlocks ((n, sized) :: bl) es = some bs) :
    ∃ rest, 0 < n ∧ n ≤ es.length ∧ n < 2 ^ 63 ∧ ((es.take n).flatten).length < 2 ^ 63 ∧
      encBlocks bl (es.drop n) = some rest ∧
      bs = (if sized then writeVarint (-(n : Int)) ++ writeVarint ((es.take n).flatten).length else writeVarint n) ++
            (es.take n).flatten ++ rest := by
  simp only [encBlocks] at h
  split at h
  · cases h
  · rename_i hg
    split at h
    · cases h
    · rename_i rest hr
      cases h
      refine ⟨rest, by omega, by omega, by omega, by omega, hr, rfl⟩

/-- the first block of a multi-block encoding: its items `xs₁` with their encodings `es₁`, the header written for
them, and the rest, which encodes the remaining items under the remaining plan -/
theorem encBlocks_cons_split {α : Type} {R : α → Bytes → Prop} {k : Nat} {sized : Bool} {bl : List (Nat × Bool)}
    {xs : List α} {es : List Bytes} {bs : Bytes} (hx : All2 R xs es) (hb : encBlocks ((k, sized) :: bl) es = some bs) :
    ∃ xs₁ xs₂ es₁ es₂ tl, xs = xs₁ ++ xs₂ ∧ All2 R xs₁ es₁ ∧ All2 R xs₂ es₂ ∧ xs₁ ≠ [] ∧ 0 < k ∧ es₁.length = k ∧ k < 2 ^ 63 ∧
      es₁.flatten.length < 2 ^ 63 ∧ encBlocks bl es₂ = some tl ∧
      bs = (if sized then writeVarint (-(k : Int)) ++ writeVarint es₁.flatten.length else writeVarint k) ++ es₁.flatten ++ tl := by
  obtain ⟨tl, hk0, hkl, hk63, hbody, htl, rfl⟩ := encBlocks_cons_inv hb
  have hl := hx.length_eq
  refine ⟨xs.take k, xs.drop k, es.take k, es.drop k, tl, (List.take_append_drop k xs).symm, hx.take k, hx.drop k, ?_, hk0,
    by simp; omega, hk63, hbody, htl, rfl⟩
  intro h; have := congrArg List.length h; rw [List.length_take, List.length_nil] at this; omega

/-- `e` is one entry of a block holding the datum `kv.2`: of an array (`keyed = false`; arrays have no keys, so
`kv.1 = []` lets one type of pairs serve both) or of a map (`keyed = true`: the key `kv.1` precedes the datum) -/
def EntryD (keyed : Bool) (s : ASchema) (kv : Bytes × Value) (e : Bytes) : Prop :=
  ∃ p d, encode p s kv.2 = some d ∧
    ((keyed = false ∧ kv.1 = [] ∧ e = d) ∨ (keyed = true ∧ kv.1.length < 2 ^ 63 ∧ e = encBytes kv.1 ++ d))

theorem entries_of_items {s : ASchema} {vs : List Value} {encs : List Bytes}
    (h : ItemsEnc s vs encs) :
    All2 (EntryD false s) (vs.map fun v => (([] : Bytes), v)) encs := by
  induction h with
  | nil => exact .nil
  | cons hr _ ih =>
    obtain ⟨p, hp⟩ := hr
    exact .cons ⟨p, _, hp, Or.inl ⟨rfl, rfl, rfl⟩⟩ ih

theorem entries_of_map {s : ASchema} {vs : List Value} {encs : List Bytes}
    (h : ItemsEnc s vs encs) : ∀ (ks : List Bytes), ks.length = vs.length →
    (∀ k ∈ ks, k.length < 2 ^ 63) →
    All2 (EntryD true s) (ks.zip vs) (List.zipWith (fun k e => encBytes k ++ e) ks encs) := by
  induction h with
  | nil => intro ks hl _; cases ks <;> simp at hl ⊢; exact .nil
  | cons hr _ ih =>
    intro ks hl hks
    cases ks with
    | nil => simp at hl
    | cons k ks =>
      simp only [List.zip_cons_cons, List.zipWith_cons_cons]
      obtain ⟨p, hp⟩ := hr
      exact .cons ⟨p, _, hp, Or.inr ⟨rfl, hks k (by simp), rfl⟩⟩
        (ih ks (by simpa using hl) (fun k' hk' => hks k' (by simp [hk'])))

theorem map_snd_unkeyed (vs : List Value) : (vs.map fun v => (([] : Bytes), v)).map (·.2) = vs := by
  rw [List.map_map]; exact List.map_id vs

end Avro
