import AvroModel.Lemmas.RoundTrip
/-!
# `normCodec` is a normal form: idempotent (`normCodec_idem`) and the identity on `Plain` values
(`normCodec_plain`)
-/
namespace Avro

section
variable (env : Env)

theorem normCodec_custom (n : Nat) (id : Nat) (g : GoVal) : normCodec env n (.custom id) g = g := by
  cases n <;> simp [normCodec]

theorem timeZero_isZero : TimeVal.zero.isZero = true := by decide

theorem omits_zero (c : Codec) (g : GoVal) (h : omits env c g = true) (hc : ∀ id, c ≠ .custom id) :
    omits env c (Codec.zero env c) = true := by
  revert h
  -- the clauses of `omits`, in its order; 17: a custom codec, 18: the catch-all `false`
  fun_cases omits env c g <;> intro h
  case case17 => exact absurd rfl (hc _)
  case case18 => contradiction
  -- the zero value is empty / zero / nil / invalid; what remains is the `omitempty` flag, first conjunct of `h`
  all_goals simp [omits, Codec.zero, isZeroF32, isZeroF64, timeZero_isZero]
  all_goals exact ((Bool.and_eq_true _ _).mp h).1

theorem nilForm_fixed : ∀ (n : Nat) (c : Codec), IsColl c → normCodec env n c (nilForm c) = nilForm c := by
  intro n
  induction n with
  | zero => intro c _; simp [normCodec]
  | succ n ih =>
    intro c hs
    cases c <;> simp only [IsColl, Codec.stripPtr] at hs <;> try (simp at hs; done)
    case array i o => simp [nilForm, normCodec]
    case map v o => simp [nilForm, normCodec]
    case pointer c' => simp [nilForm, normCodec, ih c' hs]

theorem omits_norm_pointer : ∀ (n : Nat) (c : Codec) (x : GoVal),
    omits env (.pointer c) (normCodec env n (.pointer c) x) = true → omits env (.pointer c) x = true := by
  intro n
  induction n with
  | zero => intro c x h; simpa [normCodec] using h
  | succ n ih =>
    intro c x h
    cases x <;> try (simpa [normCodec] using h)
    rename_i tgt
    cases tgt with
    | none => simp [omits]
    | some y =>
      simp only [normCodec] at h
      cases c <;> try (simp [omits] at h; done)
      rename_i c3
      simp only [omits] at h ⊢
      exact ih c3 y h

theorem wrap64_id {x : Int} (h : inRange 64 x) : wrap64 x = x := by
  unfold inRange at h; unfold wrap64
  simp at h ⊢
  omega

theorem fdiv_mul_cancel (i k : Int) (hk : 0 < k) : Int.fdiv (i * k) k = i := by
  rw [Int.fdiv_eq_ediv_of_nonneg _ (by omega)]
  exact Int.mul_ediv_cancel i (by omega)

theorem ofNanos_nanos (h : EnvLaws env) (N : Int) :
    (env.ofNanos N).unix * 1000000000 + ((env.ofNanos N).nsec : Int) = N := by
  rw [h.ofNanos_eq]
  simp only
  omega

theorem longOf_ofNanos (h : EnvLaws env) (mult : Int) (hm : mult = 1 ∨ mult = 1000 ∨ mult = 1000000)
    (i : Int) (hr : inRange 64 (i * mult)) : longOf mult (env.ofNanos (wrap64 (i * mult))) = i := by
  rw [wrap64_id hr]
  unfold longOf
  rw [ofNanos_nanos env h]
  rcases hm with rfl | rfl | rfl
  · simp only [if_true]; rw [wrap64_id hr]; omega
  · simp only [show ¬ ((1000 : Int) = 1) by decide, show ¬ ((1000 : Int) = 1000000) by decide, if_false]
    exact fdiv_mul_cancel i 1000 (by decide)
  · simp only [show ¬ ((1000000 : Int) = 1) by decide, if_false, if_true]
    exact fdiv_mul_cancel i 1000000 (by decide)

theorem ofNanos_not_zero (h : EnvLaws env) (N : Int) (hr : inRange 64 N) : (env.ofNanos N).isZero = false := by
  rw [h.ofNanos_eq]
  unfold inRange at hr
  simp at hr
  simp only [TimeVal.isZero, Bool.and_eq_false_imp, beq_iff_eq]
  intro h1
  omega

theorem normTime_of_rt {t : TimeVal} (h : TimeRT env t) :
    ∃ t', normTime env t = t' ∧ t'.isZero = t.isZero ∧ normTime env t' = t' := by
  obtain ⟨hne, t', hp, hz, hne', hp'⟩ := h
  have he : (env.fmtTime t).isEmpty = false := by simpa [List.isEmpty_iff] using hne
  have he' : (env.fmtTime t').isEmpty = false := by simpa [List.isEmpty_iff] using hne'
  exact ⟨t', by simp [normTime, he, hp], hz, by simp [normTime, he', hp']⟩

/-- if the normal form is omitted then the value was, or the normal form is the zero value (a date
whose day is day one of year 1) -/
theorem omits_norm (h : EnvLaws env) (n : Nat) (c : Codec) (g : GoVal) (hok : RTOk env n c g)
    (ho : omits env c (normCodec env n c g) = true) :
    omits env c g = true ∨ normCodec env n c g = Codec.zero env c := by
  revert ho
  -- case numbers as in `normCodec_idem`
  fun_cases normCodec env n c g <;> intro ho
  case case1 => simp [RTOk] at hok
  case case2 => exact Or.inl rfl
  case case3 => left; simpa only [omits, h.narrow_widen_zero] using ho
  case case4 => left; simpa [omits] using ho
  case case5 => left; simpa [omits] using ho
  case case6 => exact Or.inl rfl
  case case7 => exact Or.inl rfl
  case case8 => exact Or.inl rfl
  case case9 fuel c' x => exact Or.inl (omits_norm_pointer env (fuel + 1) c' _ ho)
  case case13 t =>
    left
    simp only [RTOk] at hok
    obtain ⟨t', h1, h2, -⟩ := normTime_of_rt env hok
    simpa only [omits, h1, h2] using ho
  case case14 mult t =>
    simp only [RTOk] at hok
    simp only [omits, wrap64_id hok.2, ofNanos_not_zero env h _ hok.2] at ho
    contradiction
  case case15 t =>
    right
    simp only [omits, h.ofDays_eq, TimeVal.isZero, Bool.and_eq_true, beq_iff_eq] at ho
    simp only [h.ofDays_eq, Codec.zero, TimeVal.zero, ho.1]
  case case17 => exact Or.inl ho
  all_goals simp [omits] at ho

theorem normFieldsWith_get_notin (f : Codec → GoVal → GoVal) (fs : List GoVal) (j : Nat) :
    ∀ (cs : List Codec) (ts : List (Option Nat)) (acc : List GoVal), some j ∉ ts →
      (normFieldsWith f cs ts fs acc)[j]? = acc[j]?
  | [], _, _, _ => by simp [normFieldsWith]
  | _ :: _, [], _, _ => by simp [normFieldsWith]
  | _ :: _, none :: _, _, _ => by simp [normFieldsWith]
  | c :: cs, some i :: ts, acc, hj => by
    have hij : i ≠ j := fun e => hj (by simp [e])
    simp only [normFieldsWith]
    split
    next g hg =>
      rw [normFieldsWith_get_notin f fs j cs ts _ (fun e => hj (by simp [e])), listSet_getElem?_ne _ _ _ _ hij]
    next => rfl

theorem normFieldsWith_idem (f : Codec → GoVal → GoVal) (P : Codec → GoVal → Prop) (zero : Codec → GoVal)
    (fs : List GoVal) (hf : ∀ c g, P c g → f c (f c g) = f c g) :
    ∀ (cs : List Codec) (ts : List (Option Nat)) (acc : List GoVal), FieldsOk P zero cs ts fs acc →
      normFieldsWith f cs ts (normFieldsWith f cs ts fs acc) acc = normFieldsWith f cs ts fs acc
  | [], _, _, _ => by simp [normFieldsWith]
  | _ :: _, [], _, h => by simp [FieldsOk] at h
  | _ :: _, none :: _, _, h => by simp [FieldsOk] at h
  | c :: cs, some i :: ts, acc, h => by
    obtain ⟨hni, hz, ⟨g, hg, hP⟩, hrest⟩ := h
    have hR : (normFieldsWith f cs ts fs (listSet acc i (f c g)))[i]? = some (f c g) := by
      rw [normFieldsWith_get_notin f fs i cs ts _ hni]
      exact listSet_getElem?_eq acc i _ _ hz
    simp only [normFieldsWith, hg, hR, hf c g hP]
    exact normFieldsWith_idem f P zero fs hf cs ts _ (FieldsOk.listSet i _ cs ts acc hni hrest)

theorem norm_ptr_nil_coll (n : Nat) (c' : Codec) (hs : IsColl c') :
    normCodec env (n + 1) (.pointer c') (.ptr none) = .ptr (some (nilForm c')) := by
  rcases hs with ⟨i, o, hs⟩ | ⟨v, o, hs⟩ <;> simp [normCodec, hs]

/-- **Idempotence** of the normal form. The cases are the clauses of `normCodec`, in its order (6–8: nil
pointer to an array / to a map / to anything else; 11–12: union member omitted / not; 17: the catch-all). -/
theorem normCodec_idem (h : EnvLaws env) (n : Nat) (c : Codec) (g : GoVal) (hok : RTOk env n c g) :
    normCodec env n c (normCodec env n c g) = normCodec env n c g := by
  -- strong induction only so that `n` is still a variable when `fun_cases` splits on it (at `n + 1` it would
  -- generalise the goal without `ih`); every call is `ih _ (Nat.lt_succ_self _)`
  induction n using Nat.strongRecOn generalizing c g with | ind n ih => ?_
  fun_cases normCodec env n c g
  case case1 => simp [RTOk] at hok
  case case2 => simp only [normCodec]
  case case3 => simp only [normCodec, h.narrow_widen_narrow]
  case case4 item _ items =>
    simp only [RTOk] at hok
    simp only [normCodec, List.map_map, GoVal.slice.injEq]
    exact List.map_congr_left fun x hx => ih _ (Nat.lt_succ_self _) item x (hok.2 x hx)
  case case5 val _ _ _ vs =>
    simp only [RTOk] at hok
    simp only [normCodec, List.map_map, GoVal.map.injEq, true_and]
    exact List.map_congr_left fun x hx => ih _ (Nat.lt_succ_self _) val x (hok.2.2 x hx)
  case case6 c' _ _ hs => simp [normCodec, nilForm_fixed env _ c' (Or.inl ⟨_, _, hs⟩)]
  case case7 c' _ _ hs => simp [normCodec, nilForm_fixed env _ c' (Or.inr ⟨_, _, hs⟩)]
  case case8 => simp only [normCodec]
  case case9 c' x =>
    simp only [RTOk] at hok
    simp only [normCodec, ih _ (Nat.lt_succ_self _) c' x hok]
  case case10 z cs ts fs =>
    simp only [RTOk] at hok
    simp only [normCodec, GoVal.struct.injEq]
    exact normFieldsWith_idem _ (RTOk env _) (Codec.zero env) fs (ih _ (Nat.lt_succ_self _)) cs ts z hok
  case case11 fuel c' k hom =>
    by_cases hcu : ∃ id, c' = .custom id
    · obtain ⟨id, rfl⟩ := hcu
      simp [normCodec, normCodec_custom]
    · simp [normCodec, omits_zero env c' g hom fun id e => hcu ⟨id, e⟩]
  case case12 fuel c' k hom =>
    simp only [RTOk] at hok
    have hok' := hok.2 (by simpa using hom)
    simp only [normCodec]
    by_cases hom2 : omits env c' (normCodec env fuel c' g) = true
    · rcases omits_norm env h fuel c' g hok' hom2 with h1 | h1
      · exact absurd h1 hom
      · rw [if_pos hom2, h1]
    · rw [if_neg hom2]
      exact ih _ (Nat.lt_succ_self _) c' g hok'
  case case13 t =>
    simp only [RTOk] at hok
    obtain ⟨t', h1, -, h3⟩ := normTime_of_rt env hok
    simp only [normCodec, h1, h3]
  case case14 mult t =>
    simp only [RTOk] at hok
    simp only [normCodec, longOf_ofNanos env h mult hok.1 _ hok.2]
  case case15 t => simp only [normCodec, h.ofDays_eq, fdiv_mul_cancel _ 86400 (by decide)]
  case case16 k valid inner =>
    split
    · simp only [normCodec, h.narrow_widen_narrow]
    · simp only [RTOk] at hok
      obtain ⟨t', h1, -, h3⟩ := normTime_of_rt env hok
      simp only [normCodec, h1, h3]
    · simp only [normCodec]
  case case17 => simp only [normCodec]

/-- every schema field of the record has a target holding a `P`-value -/
def PlainFields (P : Codec → GoVal → Prop) : List Codec → List (Option Nat) → List GoVal → Prop
  | [], [], _ => True
  | c :: cs, some i :: ts, fs => (∃ g, fs[i]? = some g ∧ P c g) ∧ PlainFields P cs ts fs
  | _, _, _ => False

/-- **Plain values**: those on which none of the documented normalisations (and none of the codecs'
truncations) can act:
* no nil map (`nil` and empty maps are identified; the reader delivers a non-nil map);
* no nil pointer to a slice or map (it is written as the empty collection);
* a union member that is omitted (nil pointer, omitempty zero, invalid wrapper, zero time) is the zero
  value itself (so: no `-0.0` in an omitempty field, no payload in an invalid wrapper);
* a `null.*` wrapper outside a union is valid (an invalid one is written as its payload);
* times: printable under the string codec; UTC, a multiple of the resolution and an int64 number of
  nanoseconds under the long codecs; UTC midnight under the date codec;
* floats crossing a float32/float64 conversion are not changed by it;
* a struct has the fields of its codec's zero struct, and those the schema does not mention are zero
  (they are never written). -/
def Plain (env : Env) : Nat → Codec → GoVal → Prop
  | 0, _, _ => True
  | n + 1, c, g =>
    match c, g with
    | .null, g => g = .unit
    | .f32double _, .f32 b => ¬ SNaN32 b
    | .array item _, .slice items => ∀ x ∈ items, Plain env n item x
    | .map val _, .map nl _ vs => nl = false ∧ ∀ x ∈ vs, Plain env n val x
    | .pointer c', .ptr none =>
      ¬ ((∃ i o, Codec.stripPtr c' = .array i o) ∨ (∃ v o, Codec.stripPtr c' = .map v o))
    | .pointer c', .ptr (some x) => Plain env n c' x
    | .record z cs ts, .struct fs =>
      PlainFields (Plain env n) cs ts fs ∧ fs.length = z.length ∧ ∀ j, some j ∉ ts → fs[j]? = z[j]?
    | .unionOne c' _, g => if omits env c' g = true then g = Codec.zero env c' else Plain env n c' g
    | .timeString, .time t => t.Printable
    | .timeLong mult, .time t =>
      (mult = 1 ∨ mult = 1000 ∨ mult = 1000000) ∧ t.off = 0 ∧ t.nsec < 1000000000 ∧
      (t.unix * 1000000000 + t.nsec) % mult = 0 ∧ inRange 64 (t.unix * 1000000000 + t.nsec)
    | .date, .time t => t.off = 0 ∧ t.nsec = 0 ∧ t.unix % 86400 = 0
    | .nullw k, .nullw valid inner =>
      valid = true ∧
      match k, inner with
      | .float, .f64 d => ∃ b, ¬ SNaN32 b ∧ d = env.widen b
      | .time, .time t => t.Printable
      | _, _ => True
    | _, _ => True

theorem normFieldsWith_plain (f : Codec → GoVal → GoVal) (P : Codec → GoVal → Prop) (fs : List GoVal)
    (hf : ∀ c g, P c g → f c g = g) :
    ∀ (cs : List Codec) (ts : List (Option Nat)) (acc : List GoVal), PlainFields P cs ts fs →
      acc.length = fs.length → (∀ j, some j ∉ ts → acc[j]? = fs[j]?) →
      normFieldsWith f cs ts fs acc = fs
  | [], [], acc, _, _, hj => by
    simp only [normFieldsWith]
    exact List.ext_getElem? fun j => hj j (by simp)
  | [], _ :: _, _, h, _, _ => by simp [PlainFields] at h
  | _ :: _, [], _, h, _, _ => by simp [PlainFields] at h
  | _ :: _, none :: _, _, h, _, _ => by simp [PlainFields] at h
  | c :: cs, some i :: ts, acc, h, hl, hj => by
    obtain ⟨⟨g, hg, hP⟩, hrest⟩ := h
    simp only [normFieldsWith, hg, hf c g hP]
    have hi : i < acc.length := by
      rw [hl]
      exact (List.getElem?_eq_some_iff.mp hg).1
    apply normFieldsWith_plain f P fs hf cs ts _ hrest (by rw [listSet_length, hl])
    intro j hjn
    by_cases hij : i = j
    · subst hij
      rw [listSet_getElem?_eq acc i g acc[i] (by simp [hi]), hg]
    · rw [listSet_getElem?_ne _ _ _ _ hij]
      exact hj j (by simp [hjn, Ne.symm hij])

theorem normTime_printable (h : EnvLaws env) (t : TimeVal) (ht : t.Printable) : normTime env t = t := by
  have he : (env.fmtTime t).isEmpty = false := by simpa [List.isEmpty_iff] using h.fmt_ne t
  simp [normTime, he, h.parse_fmt t ht]

theorem timeRT_of_printable (h : EnvLaws env) (t : TimeVal) (ht : t.Printable) : TimeRT env t :=
  ⟨h.fmt_ne t, t, h.parse_fmt t ht, rfl, h.fmt_ne t, h.parse_fmt t ht⟩

theorem timeLong_plain (h : EnvLaws env) (mult : Int) (t : TimeVal)
    (hm : mult = 1 ∨ mult = 1000 ∨ mult = 1000000) (hoff : t.off = 0) (hns : t.nsec < 1000000000)
    (hmod : (t.unix * 1000000000 + t.nsec) % mult = 0) (hr : inRange 64 (t.unix * 1000000000 + t.nsec)) :
    env.ofNanos (wrap64 (longOf mult t * mult)) = t := by
  have hl : longOf mult t * mult = t.unix * 1000000000 + t.nsec := by
    unfold longOf
    rcases hm with rfl | rfl | rfl
    · simp only [if_true]; rw [wrap64_id hr]; omega
    · simp only [show ¬ ((1000 : Int) = 1) by decide, show ¬ ((1000 : Int) = 1000000) by decide, if_false]
      rw [Int.fdiv_eq_ediv_of_nonneg _ (by decide)]; omega
    · simp only [show ¬ ((1000000 : Int) = 1) by decide, if_false, if_true]
      rw [Int.fdiv_eq_ediv_of_nonneg _ (by decide)]; omega
  rw [hl, wrap64_id hr, h.ofNanos_eq]
  cases t with
  | mk u ns off =>
    simp only at hoff hns ⊢
    subst hoff
    simp only [TimeVal.mk.injEq, and_true]
    constructor <;> omega

/-- **Identity on plain values**: a plain value is its own normal form, so by `roundTrip` it is read back
exactly as written. -/
theorem normCodec_plain (h : EnvLaws env) (n : Nat) (c : Codec) (g : GoVal) (hp : Plain env n c g) :
    normCodec env n c g = g := by
  induction n using Nat.strongRecOn generalizing c g with | ind n ih => ?_
  -- cases and induction as in `normCodec_idem`
  fun_cases normCodec env n c g <;> simp only [Plain] at hp
  case case1 => rfl
  case case2 => exact hp.symm
  case case3 => rw [h.narrow_widen _ hp]
  case case4 item _ items => rw [List.map_congr_left fun x hx => ih _ (Nat.lt_succ_self _) item x (hp x hx), List.map_id']
  case case5 val _ _ _ vs => rw [hp.1, List.map_congr_left fun x hx => ih _ (Nat.lt_succ_self _) val x (hp.2 x hx), List.map_id']
  case case6 hs => exact absurd (Or.inl ⟨_, _, hs⟩) hp
  case case7 hs => exact absurd (Or.inr ⟨_, _, hs⟩) hp
  case case8 => rfl
  case case9 c' x => rw [ih _ (Nat.lt_succ_self _) c' x hp]
  case case10 z cs ts fs =>
    rw [normFieldsWith_plain _ (Plain env _) fs (ih _ (Nat.lt_succ_self _)) cs ts z hp.1 hp.2.1.symm
      fun j hj => (hp.2.2 j hj).symm]
  case case11 ho => rw [if_pos ho] at hp; exact hp.symm
  case case12 ho => rw [if_neg ho] at hp; exact ih _ (Nat.lt_succ_self _) _ _ hp
  case case13 t => rw [normTime_printable env h t hp]
  case case14 mult t => rw [timeLong_plain env h mult t hp.1 hp.2.1 hp.2.2.1 hp.2.2.2.1 hp.2.2.2.2]
  case case15 t =>
    obtain ⟨u, ns, off⟩ := t
    simp only at hp
    obtain ⟨rfl, rfl, h3⟩ := hp
    simp only [h.ofDays_eq, Int.fdiv_eq_ediv_of_nonneg _ (show (0 : Int) ≤ 86400 by decide),
      GoVal.time.injEq, TimeVal.mk.injEq, and_true]
    omega
  case case16 k valid inner =>
    obtain ⟨rfl, hp⟩ := hp
    split <;> simp only at hp
    · obtain ⟨b, hb, rfl⟩ := hp; rw [h.narrow_widen b hb]
    · rw [normTime_printable env h _ hp]
    · rfl
  case case17 => rfl

end

end Avro
