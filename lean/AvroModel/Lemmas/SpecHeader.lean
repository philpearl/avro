import AvroModel.Container
import AvroModel.Lemmas.File
/-!
# The header a writer produces, as seen by the specification-side container reader

`File.mkHeader` (Lemmas/File.lean) is the writer model of the container header: magic, the metadata
map as blocks, a terminating zero count, the sync marker. `readFileHeader_accepts` shows that the model
of the *library's* reader accepts it. Here: the independent reader written from the specification
(`Avro.Spec.readHeader`, Container.lean — it shares no definition with File.lean) reads a header with a
single metadata block back as exactly those entries and that sync marker, leaving exactly what follows.
-/
namespace Avro.SpecHeader
open Avro Avro.File

theorem readLenBytes_lenPrefixed (b rest : Bytes) (hb : b.length ≤ maxLen) :
    Spec.readLenBytes (lenPrefixed b ++ rest) = some (b, rest) := by
  unfold Spec.readLenBytes lenPrefixed
  rw [List.append_assoc, readVarint_writeVarint _ (inRange_of_le_maxLen hb)]
  have hneg : ¬ ((b.length : Int) < 0) := by omega
  simp only [hneg, if_false, Int.toNat_natCast, takeN_append]

theorem readMetaEntries_entriesBytes : ∀ (es : List (Bytes × Bytes)) (rest : Bytes), (∀ kv ∈ es, SmallEntry kv) →
    Spec.readMetaEntries es.length (entriesBytes es ++ rest) = some (es, rest)
  | [], rest, _ => by simp [Spec.readMetaEntries, entriesBytes]
  | kv :: es, rest, h => by
    obtain ⟨hkv, h'⟩ := List.forall_mem_cons.mp h
    have ih := readMetaEntries_entriesBytes es rest h'
    rw [entriesBytes_cons, List.append_assoc, List.append_assoc, List.length_cons, Spec.readMetaEntries,
      readLenBytes_lenPrefixed _ _ hkv.1]
    simp only []
    rw [readLenBytes_lenPrefixed _ _ hkv.2]
    simp only []
    rw [ih]

theorem lenPrefixed_length_pos (b : Bytes) : 0 < (lenPrefixed b).length := by
  have := writeVarint_length_pos (b.length : Int)
  simp only [lenPrefixed, List.length_append]; omega

/-- every entry takes at least one byte: the guard `n > remaining` of the reference reader passes -/
theorem length_le_entriesBytes : ∀ (es : List (Bytes × Bytes)), es.length ≤ (entriesBytes es).length
  | [] => by simp
  | kv :: es => by
    have ih := length_le_entriesBytes es
    have h1 := lenPrefixed_length_pos kv.1
    rw [entriesBytes_cons]
    simp only [List.length_cons, List.length_append]; omega

theorem readMeta_metaBlock (es : List (Bytes × Bytes)) (hne : es ≠ []) (hlen : es.length ≤ maxLen)
    (hsm : ∀ kv ∈ es, SmallEntry kv) (rest : Bytes) (fuel : Nat) :
    Spec.readMeta (fuel + 2) (metaBlock es ++ (writeVarint 0 ++ rest)) = some (es, rest) := by
  have hpos : 0 < es.length := List.length_pos_iff.mpr hne
  have hr := inRange_of_le_maxLen hlen
  have h0 : inRange 64 (0 : Int) := by decide
  have hc0 : ¬ ((es.length : Int) = 0) := by omega
  have hcn : ¬ ((es.length : Int) < 0) := by omega
  have hguard : ¬ es.length > (entriesBytes es ++ (writeVarint 0 ++ rest)).length := by
    have := length_le_entriesBytes es
    simp only [List.length_append]; omega
  have hshape : metaBlock es ++ (writeVarint 0 ++ rest) =
      writeVarint (es.length : Int) ++ (entriesBytes es ++ (writeVarint 0 ++ rest)) := by
    simp [metaBlock]
  have hlast : Spec.readMeta (fuel + 1) (writeVarint 0 ++ rest) = some ([], rest) := by
    rw [Spec.readMeta, readVarint_writeVarint 0 h0]
    simp
  rw [hshape, Spec.readMeta, readVarint_writeVarint _ hr]
  simp only [hc0, hcn, if_false, Int.toNat_natCast, hguard, readMetaEntries_entriesBytes es _ hsm, hlast,
    List.append_nil]

theorem readHeader_mkHeader (es : List (Bytes × Bytes)) (sync rest : Bytes) (hne : es ≠ []) (hlen : es.length ≤ maxLen)
    (hsm : ∀ kv ∈ es, SmallEntry kv) (hs : sync.length = 16) :
    Spec.readHeader (mkHeader [es] sync ++ rest) = some ({ metadata := es, sync := sync }, rest) := by
  have hshape : mkHeader [es] sync ++ rest = File.magic ++ (metaBlock es ++ (writeVarint 0 ++ (sync ++ rest))) := by
    simp [mkHeader]
  have hmagic : File.magic.length = 4 := rfl
  have h4 : takeN 4 (File.magic ++ (metaBlock es ++ (writeVarint 0 ++ (sync ++ rest)))) =
      some (File.magic, metaBlock es ++ (writeVarint 0 ++ (sync ++ rest))) := by
    rw [← hmagic]; exact takeN_append _ _
  have hm : File.magic = Spec.magic := rfl
  have hfuel : (metaBlock es ++ (writeVarint 0 ++ (sync ++ rest))).length + 1 =
      ((metaBlock es ++ (writeVarint 0 ++ (sync ++ rest))).length - 1) + 2 := by
    have := writeVarint_length_pos (0 : Int)
    simp only [List.length_append]; omega
  have h16 : takeN 16 (sync ++ rest) = some (sync, rest) := by
    rw [← hs]; exact takeN_append _ _
  rw [hshape]
  unfold Spec.readHeader
  rw [h4]
  simp only [hm, ne_eq, not_true_eq_false, if_false]
  rw [hfuel, readMeta_metaBlock es hne hlen hsm]
  simp only [h16]

end Avro.SpecHeader
