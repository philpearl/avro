import AvroModel.Lemmas.WireInv
import AvroModel.Lemmas.Bytes
/-!
The reference decoder inverts the specification encoder for every plan: Avro binary encodings are
self-delimiting and a conformant reader recovers exactly the datum, with the exact remainder.
(The decoder is the oracle that judges the library's output in C02/C13; this theorem ties it to
the encoder the codec theorems are stated against.)
-/
namespace Avro

/-- `OkOrFuel` for the reference decoder's result type -/
def DecIs {α : Type} (d : Dec α) (x : α) : Prop := d = .ok x ∨ d = .fuel

@[simp] theorem Dec.bind_ok' {α β : Type} (a : α) (f : α → Dec β) : Dec.bind (.ok a) f = f a := rfl
@[simp] theorem Dec.bind_bad' {α β : Type} (f : α → Dec β) : Dec.bind (.bad : Dec α) f = .bad := rfl
@[simp] theorem Dec.bind_fuel' {α β : Type} (f : α → Dec β) : Dec.bind (.fuel : Dec α) f = .fuel := rfl
@[simp] theorem Dec.bind_eq {α β : Type} (d : Dec α) (f : α → Dec β) : (d >>= f) = Dec.bind d f := rfl
@[simp] theorem Dec.pure_eq {α : Type} (a : α) : (pure a : Dec α) = .ok a := rfl

theorem DecIs.ok {α : Type} (x : α) : DecIs (.ok x) x := Or.inl rfl
theorem DecIs.fuel {α : Type} (x : α) : DecIs (.fuel) x := Or.inr rfl

theorem DecIs.bind {α β : Type} {d : Dec α} {a : α} {f : α → Dec β} {b : β}
    (h1 : DecIs d a) (h2 : DecIs (f a) b) : DecIs (d.bind f) b := by
  rcases h1 with h | h
  · rw [h]; exact h2
  · rw [h]; exact Or.inr rfl

theorem decVarint_write (v : Int) (hv : inRange 64 v) (rest : Bytes) :
    decVarint (writeVarint v ++ rest) = .ok (v, rest) := by
  unfold decVarint; rw [readVarint_writeVarint v hv]

theorem decTake_append (a rest : Bytes) : decTake a.length (a ++ rest) = .ok (a, rest) := by
  unfold decTake; rw [takeN_append]

theorem decLenBytes_enc {b : Bytes} (h : b.length < 2 ^ 63) (rest : Bytes) :
    decLenBytes (encBytes b ++ rest) = .ok (b, rest) := by
  unfold decLenBytes encBytes
  rw [List.append_assoc]
  simp only [Dec.bind_eq, decVarint_write _ (inRange_of_nat_lt h), Dec.bind_ok']
  have : ¬ ((b.length : Int) < 0) := by omega
  rw [if_neg this]
  simp only [Int.toNat_natCast]
  exact decTake_append b rest

structure DecOkAt (n : Nat) : Prop where
  decode : ∀ s p v bs rest, encode p s v = some bs → DecIs (decode n s (bs ++ rest)) (v, rest)
  fields : ∀ ss ps vs bs rest, encodeFields ps ss vs = some bs → DecIs (decodeFields n ss (bs ++ rest)) (vs, rest)
  items : ∀ keyed s kvs es rest, All2 (EntryD keyed s) kvs es →
    DecIs (decodeItems n keyed s es.length (es.flatten ++ rest)) (kvs, rest)
  blocks : ∀ keyed s bl kvs es bs rest, All2 (EntryD keyed s) kvs es → encBlocks bl es = some bs →
    DecIs (decodeBlocks n keyed s (bs ++ rest)) (kvs, rest)

theorem decOk_decode (n : Nat) (ih : DecOkAt n) :
    ∀ s p v bs rest, encode p s v = some bs → DecIs (decode (n + 1) s (bs ++ rest)) (v, rest) := by
  intro s p v bs rest he
  cases s with
  | null => obtain ⟨rfl, rfl⟩ := encode_null_inv he; simp only [decode, List.nil_append]; exact .ok _
  | boolean =>
    obtain ⟨b, rfl, rfl⟩ := encode_boolean_inv he
    cases b <;> simp [decode, writeBool] <;> exact .ok _
  | int =>
    obtain ⟨i, rfl, hr, rfl⟩ := encode_int_inv he
    simp only [decode, Dec.bind_eq, Dec.pure_eq, decVarint_write _ (inRange_32_64 hr), Dec.bind_ok', if_pos hr]; exact .ok _
  | long =>
    obtain ⟨i, rfl, hr, rfl⟩ := encode_long_inv he
    simp only [decode, Dec.bind_eq, Dec.pure_eq, decVarint_write _ hr, Dec.bind_ok']; exact .ok _
  | float =>
    obtain ⟨b, rfl, hb, rfl⟩ := encode_float_inv he
    have := decTake_append (putLE 4 b) rest
    rw [putLE_length] at this
    simp only [decode, Dec.bind_eq, Dec.pure_eq, this, Dec.bind_ok', getLE_putLE]
    have : b % 256 ^ 4 = b := Nat.mod_eq_of_lt (by omega)
    rw [this]; exact .ok _
  | double =>
    obtain ⟨b, rfl, hb, rfl⟩ := encode_double_inv he
    have := decTake_append (putLE 8 b) rest
    rw [putLE_length] at this
    simp only [decode, Dec.bind_eq, Dec.pure_eq, this, Dec.bind_ok', getLE_putLE]
    have : b % 256 ^ 8 = b := Nat.mod_eq_of_lt (by omega)
    rw [this]; exact .ok _
  | bytes =>
    obtain ⟨b, rfl, hl, rfl⟩ := encode_bytes_inv he
    simp only [decode, Dec.bind_eq, Dec.pure_eq, decLenBytes_enc hl, Dec.bind_ok']; exact .ok _
  | string =>
    obtain ⟨b, rfl, hl, rfl⟩ := encode_string_inv he
    simp only [decode, Dec.bind_eq, Dec.pure_eq, decLenBytes_enc hl, Dec.bind_ok']; exact .ok _
  | fixed k =>
    obtain ⟨rfl, hl⟩ := encode_fixed_inv he
    subst hl
    simp only [decode, Dec.bind_eq, Dec.pure_eq, decTake_append, Dec.bind_ok']; exact .ok _
  | enum k =>
    obtain ⟨i, rfl, h0, h1, h64, rfl⟩ := encode_enum_inv he
    simp only [decode, Dec.bind_eq, Dec.pure_eq, decVarint_write _ h64, Dec.bind_ok', if_pos (And.intro h0 h1)]; exact .ok _
  | record ns fs =>
    obtain ⟨bl, subs, vs, rfl, rfl, hf⟩ := encode_record_inv he
    simp only [decode, Dec.bind_eq, Dec.pure_eq]
    exact DecIs.bind (ih.fields _ _ _ _ _ hf) (.ok _)
  | array items =>
    obtain ⟨bl, subs, vs, encs, rfl, rfl, hi, hb⟩ := encode_array_inv he
    simp only [decode, Dec.bind_eq, Dec.pure_eq]
    have := ih.blocks false items bl _ encs bs rest (entries_of_items (encodeItems_inv hi)) hb
    refine DecIs.bind this ?_
    simp only [map_snd_unkeyed]; exact .ok _
  | map values =>
    obtain ⟨bl, subs, ks, vs, encs, rfl, rfl, hlen, hks, hi, hb⟩ := encode_map_inv he
    simp only [decode, Dec.bind_eq, Dec.pure_eq]
    have := ih.blocks true values bl _ _ bs rest (entries_of_map (encodeItems_inv hi) ks hlen hks) hb
    refine DecIs.bind this ?_
    simp only [zip_map_fst ks vs hlen, zip_map_snd ks vs hlen]; exact .ok _
  | union branches =>
    obtain ⟨bl, idx, v', b, p', e, rfl, rfl, hb, he', hi, rfl⟩ := encode_union_inv he
    simp only [decode, Dec.bind_eq, Dec.pure_eq, List.append_assoc, decVarint_write _ (inRange_of_nat_lt hi), Dec.bind_ok']
    have : ¬ ((idx : Int) < 0) := by omega
    rw [if_neg this]
    simp only [Int.toNat_natCast, hb]
    exact DecIs.bind (ih.decode _ _ _ _ _ he') (.ok _)

theorem decOk_fields (n : Nat) (ih : DecOkAt n) :
    ∀ ss ps vs bs rest, encodeFields ps ss vs = some bs → DecIs (decodeFields (n + 1) ss (bs ++ rest)) (vs, rest) := by
  intro ss ps vs bs rest he
  cases ss with
  | nil =>
    obtain ⟨rfl, rfl, rfl⟩ := encodeFields_nil_inv he
    simp only [decodeFields, List.nil_append]; exact .ok _
  | cons s ss =>
    obtain ⟨p, ps', v, vs', a, b, rfl, rfl, ha, hb, rfl⟩ := encodeFields_cons_inv he
    simp only [decodeFields, Dec.bind_eq, Dec.pure_eq, List.append_assoc]
    refine DecIs.bind (ih.decode _ _ _ _ _ ha) ?_
    exact DecIs.bind (ih.fields _ _ _ _ _ hb) (.ok _)

theorem decOk_items (n : Nat) (ih : DecOkAt n) :
    ∀ keyed s kvs es rest, All2 (EntryD keyed s) kvs es →
    DecIs (decodeItems (n + 1) keyed s es.length (es.flatten ++ rest)) (kvs, rest) := by
  intro keyed s kvs es rest h
  cases h with
  | nil => simp only [List.length_nil, decodeItems, List.flatten_nil, List.nil_append]; exact .ok _
  | @cons kv e kvs' es' hr ht =>
    obtain ⟨p, d, hd, hk⟩ := hr
    obtain ⟨k, v⟩ := kv
    simp only [List.length_cons, decodeItems, Dec.bind_eq, Dec.pure_eq, List.flatten_cons, List.append_assoc]
    rcases hk with ⟨hkf, hk0, rfl⟩ | ⟨hkt, hkl, rfl⟩
    · subst hkf; simp only at hk0; subst hk0
      simp only [Bool.false_eq_true, if_false, Dec.bind_ok']
      refine DecIs.bind (ih.decode _ _ _ _ _ hd) ?_
      exact DecIs.bind (ih.items _ _ _ _ _ ht) (.ok _)
    · subst hkt
      simp only [if_true, List.append_assoc]
      rw [decLenBytes_enc hkl]
      simp only [Dec.bind_ok']
      refine DecIs.bind (ih.decode _ _ _ _ _ hd) ?_
      exact DecIs.bind (ih.items _ _ _ _ _ ht) (.ok _)

theorem decOk_blocks (n : Nat) (ih : DecOkAt n) :
    ∀ keyed s bl kvs es bs rest, All2 (EntryD keyed s) kvs es → encBlocks bl es = some bs →
    DecIs (decodeBlocks (n + 1) keyed s (bs ++ rest)) (kvs, rest) := by
  intro keyed s bl kvs es bs rest henc hb
  cases bl with
  | nil =>
    obtain ⟨rfl, rfl⟩ := encBlocks_nil_inv hb
    cases henc
    simp only [decodeBlocks, Dec.bind_eq, Dec.pure_eq]
    rw [decVarint_write 0 inRange_zero]
    simp only [Dec.bind_ok', if_true]
    exact .ok _
  | cons blk bl =>
    obtain ⟨k, sized⟩ := blk
    obtain ⟨kvs₁, kvs₂, es₁, es₂, tl, rfl, h₁, h₂, _, hk0, rfl, hk63, hbody63, htl, rfl⟩ := encBlocks_cons_split henc hb
    simp only [decodeBlocks, Dec.bind_eq, Dec.pure_eq]
    rw [List.append_assoc, List.append_assoc, decVarint, readVarint_blockHeader sized hk63]
    simp only [Dec.bind_ok']
    rw [if_neg (blockHeader_ne_zero sized hk0)]
    have hdr : decBlockHeader (if sized then -(es₁.length : Int) else (es₁.length : Int))
        ((if sized then writeVarint (es₁.flatten.length : Nat) else []) ++ (es₁.flatten ++ (tl ++ rest))) =
        .ok (es₁.length, es₁.flatten ++ (tl ++ rest)) := by
      unfold decBlockHeader
      cases sized with
      | true =>
        have h2 : (-(es₁.length : Int) < 0) := by omega
        simp only [if_true, h2, Dec.bind_eq, Dec.pure_eq]
        rw [decVarint_write _ (inRange_of_nat_lt hbody63)]
        simp
      | false =>
        have h2 : ¬ ((es₁.length : Int) < 0) := by omega
        simp [h2]
    rw [hdr]
    simp only [Dec.bind_ok']
    refine DecIs.bind (ih.items keyed s _ _ (tl ++ rest) h₁) ?_
    refine DecIs.bind (ih.blocks keyed s bl _ _ tl rest h₂ htl) ?_
    exact .ok _

theorem decOkAt : ∀ n, DecOkAt n := by
  intro n
  induction n with
  | zero =>
    constructor <;> intros <;> exact Or.inr (by simp [decode, decodeFields, decodeItems, decodeBlocks])
  | succ n ih => exact ⟨decOk_decode n ih, decOk_fields n ih, decOk_items n ih, decOk_blocks n ih⟩

theorem decode_encode (n : Nat) (s : ASchema) (p : Plan) (v : Value) (bs rest : Bytes) (he : encode p s v = some bs) :
    decode n s (bs ++ rest) = .ok (v, rest) ∨ decode n s (bs ++ rest) = .fuel :=
  (decOkAt n).decode s p v bs rest he

end Avro
