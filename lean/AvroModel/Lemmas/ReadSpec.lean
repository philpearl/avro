import AvroModel.Lemmas.SkipExact
import AvroModel.Lemmas.SemEqns
/-! The forms in which read correctness (C03) is stated (`ReadSpec` for every budget, `Delivers` within budget),
and lemmas about `Fit`, `mapFit`, `assignAll`. -/
namespace Avro

@[simp] theorem Fit.bind_ok' {α β : Type} (a : α) (k : α → Fit β) : Fit.bind (.ok a) k = k a := rfl
@[simp] theorem Fit.bind_misfit' {α β : Type} (k : α → Fit β) : Fit.bind (.misfit : Fit α) k = .misfit := rfl
@[simp] theorem Fit.bind_illtyped' {α β : Type} (k : α → Fit β) : Fit.bind (.illtyped : Fit α) k = .illtyped := rfl
@[simp] theorem Fit.bind_eq {α β : Type} (f : Fit α) (k : α → Fit β) : (f >>= k) = Fit.bind f k := rfl
@[simp] theorem Fit.pure_eq {α : Type} (a : α) : (pure a : Fit α) = .ok a := rfl

theorem Fit.bind_assoc {α β γ : Type} (f : Fit α) (k : α → Fit β) (k' : β → Fit γ) :
    (f.bind k).bind k' = f.bind (fun a => (k a).bind k') := by
  cases f <;> rfl

theorem Fit.bind_eq_ok {α β : Type} {f : Fit α} {k : α → Fit β} {b : β} :
    f.bind k = .ok b ↔ ∃ a, f = .ok a ∧ k a = .ok b := by
  cases f <;> simp [Fit.bind]

/-- what `read` must return when the datum's delivery is `f`: the value and the exact remainder
(or out of budget); an error when the datum does not fit; nothing is claimed for ill-typed
combinations, which typing excludes. -/
def ReadSpec {α : Type} (o : Outcome (α × Bytes)) (f : Fit α) (rest : Bytes) : Prop :=
  match f with
  | .ok g => OkOrFuel o (g, rest)
  | .misfit => o = .err ∨ o = .fuel
  | .illtyped => True

theorem ReadSpec.fuel {α : Type} (f : Fit α) (rest : Bytes) : ReadSpec (.fuel : Outcome (α × Bytes)) f rest := by
  cases f <;> simp [ReadSpec, OkOrFuel]

/-- the consumption half of read correctness: the call finished (not out of budget) and, if it succeeded,
stopped exactly at `rest`; nothing is said about the value -/
def Done {α : Type} (o : Outcome (α × Bytes)) (rest : Bytes) : Prop :=
  match o with
  | .ok (_, r) => r = rest
  | .fuel => False
  | _ => True

theorem Done.ok {α : Type} (g : α) (rest : Bytes) : Done (.ok (g, rest)) rest := rfl
theorem Done.err {α : Type} (rest : Bytes) : Done (.err : Outcome (α × Bytes)) rest := trivial
theorem Done.stuck {α : Type} (rest : Bytes) : Done (.stuck : Outcome (α × Bytes)) rest := trivial
theorem Done.panic {α : Type} (rest : Bytes) : Done (.panic : Outcome (α × Bytes)) rest := trivial

theorem Done.ne_fuel {α : Type} {o : Outcome (α × Bytes)} {rest : Bytes} (h : Done o rest) : o ≠ .fuel := by
  intro hf; rw [hf] at h; exact h

/-- what `read` returns, given enough budget, when the datum's delivery is `f`: the value and the exact
remainder; an error when the datum does not fit; for the combinations typing excludes the call still
finishes, and a success leaves exactly `rest`. -/
def Delivers {α : Type} (o : Outcome (α × Bytes)) (f : Fit α) (rest : Bytes) : Prop :=
  match f with
  | .ok g => o = .ok (g, rest)
  | .misfit => o = .err
  | .illtyped => Done o rest

theorem Delivers.ok {α : Type} (g : α) (rest : Bytes) : Delivers (.ok (g, rest)) (.ok g) rest := rfl
theorem Delivers.err {α : Type} (rest : Bytes) : Delivers (.err : Outcome (α × Bytes)) .misfit rest := rfl
theorem Delivers.illtyped {α : Type} {o : Outcome (α × Bytes)} {rest : Bytes} (h : Done o rest) :
    Delivers o .illtyped rest := h

theorem Delivers.done {α : Type} {o : Outcome (α × Bytes)} {f : Fit α} {rest : Bytes} (h : Delivers o f rest) :
    Done o rest := by
  cases f with
  | ok g => rw [show o = _ from h]; rfl
  | misfit => rw [show o = _ from h]; trivial
  | illtyped => exact h

theorem Delivers.readSpec {α : Type} {o : Outcome (α × Bytes)} {f : Fit α} {rest : Bytes} (h : Delivers o f rest) :
    ReadSpec o f rest := by
  cases f with
  | ok g => exact Or.inl h
  | misfit => exact Or.inl h
  | illtyped => trivial

/-- `h2` is asked for every `g`, not only the one `f` delivers: the continuation must also finish when, on an
ill-typed combination, the first call returned something the specification does not prescribe -/
theorem Delivers.bind {α β : Type} {o : Outcome (α × Bytes)} {f : Fit α} {mid rest : Bytes}
    {k : α × Bytes → Outcome (β × Bytes)} {k' : α → Fit β} (h1 : Delivers o f mid)
    (h2 : ∀ g, Delivers (k (g, mid)) (k' g) rest) : Delivers (o.bind k) (f.bind k') rest := by
  cases f with
  | ok g => rw [show o = _ from h1]; exact h2 g
  | misfit => rw [show o = _ from h1]; rfl
  | illtyped =>
    cases o with
    | ok a => obtain ⟨g, r⟩ := a; cases (show r = mid from h1); exact (h2 g).done
    | fuel => exact absurd h1 id
    | _ => trivial

theorem mapFit_append (f : Value → Fit GoVal) (a b : List Value) :
    mapFit f (a ++ b) = (mapFit f a).bind fun ga => (mapFit f b).bind fun gb => .ok (ga ++ gb) := by
  induction a with
  | nil => rw [List.nil_append, mapFit_nil, Fit.bind_ok']; cases mapFit f b <;> rfl
  | cons v a ih => simp only [List.cons_append, mapFit_cons, ih, Fit.bind_assoc, Fit.bind_ok']

theorem mapFit_length {f : Value → Fit GoVal} : ∀ {vs : List Value} {gs : List GoVal}, mapFit f vs = .ok gs → gs.length = vs.length
  | [], _, h => by cases h; rfl
  | v :: vs, gs, h => by
    rw [mapFit_cons] at h
    obtain ⟨g, _, h⟩ := Fit.bind_eq_ok.mp h
    obtain ⟨gs', hm, h⟩ := Fit.bind_eq_ok.mp h
    cases h
    rw [List.length_cons, List.length_cons, mapFit_length hm]

theorem assignAll_append : ∀ {k1 : List Bytes} {g1 : List GoVal} {k2 : List Bytes} {g2 : List GoVal} {ks0 : List Bytes} {vs0 : List GoVal},
    k1.length = g1.length →
    assignAll (k1 ++ k2) (g1 ++ g2) ks0 vs0 =
      assignAll k2 g2 (assignAll k1 g1 ks0 vs0).1 (assignAll k1 g1 ks0 vs0).2
  | [], [], _, _, _, _, _ => rfl
  | k :: k1, g :: g1, _, _, _, _, h => by
    rw [List.cons_append, List.cons_append, assignAll_cons, assignAll_cons]
    exact assignAll_append (Nat.succ.inj h)

end Avro
