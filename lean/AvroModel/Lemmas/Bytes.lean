import AvroModel.Bytes
/-! Lemmas for the primitive wire layer (`AvroModel/Bytes.lean`): what `uvarint` does on every input,
the varint and fixed-width round trips for any width. -/
namespace Avro

theorem toUInt8_toNat {n : Nat} (h : n < 256) : n.toUInt8.toNat = n := UInt8.toNat_ofNat_of_lt' h

theorem pow7_succ (i : Nat) : 2 ^ (7 * (i + 1)) = 128 * 2 ^ (7 * i) := by
  rw [Nat.mul_succ, Nat.pow_add]; simp [Nat.mul_comm]

theorem putUvarint_lt {n : Nat} (h : n < 128) : putUvarint n = [n.toUInt8] := by
  rw [putUvarint]; simp [h]

theorem putUvarint_ge {n : Nat} (h : ¬ n < 128) :
    putUvarint n = (n % 128 + 128).toUInt8 :: putUvarint (n / 128) := by
  rw [putUvarint]; simp [h]

theorem putUvarint_ne_nil (n : Nat) : putUvarint n ≠ [] := by
  by_cases h : n < 128
  · rw [putUvarint_lt h]; simp
  · rw [putUvarint_ge h]; simp

theorem div128_lt {n a : Nat} (h : n < 2 ^ (a + 7)) : n / 128 < 2 ^ a := by
  have : 2 ^ (a + 7) = 2 ^ a * 128 := by rw [Nat.pow_add]
  rw [this] at h
  exact Nat.div_lt_of_lt_mul (by rw [Nat.mul_comm]; exact h)

/-- `n < 2^(64-7i)`: with its lowest group at bit `7i` the value still fits in 64 bits. -/
theorem readUvarintAux_put (n : Nat) : ∀ (i x : Nat) (rest : Bytes),
    7 * i ≤ 63 → n < 2 ^ (64 - 7 * i) →
    readUvarintAux i x (putUvarint n ++ rest) = .ok (x + n * 2 ^ (7 * i), rest) := by
  fun_induction putUvarint n with
  | case1 n h =>
    intro i x rest hi hn
    -- at byte index 9 a single bit is left
    have h9 : i = 9 → n < 2 := by rintro rfl; simpa using hn
    have hc : ¬ (i > 9 ∨ (i = 9 ∧ n > 1)) := by omega
    simp [readUvarintAux, toUInt8_toNat (show n < 256 by omega), h, hc]
  | case2 n h ih =>
    intro i x rest hi hn
    have h9 : i = 9 → n < 2 := by rintro rfl; simpa using hn
    have hdiv : n / 128 < 2 ^ (64 - 7 * (i + 1)) :=
      div128_lt (by rwa [show 64 - 7 * (i + 1) + 7 = 64 - 7 * i by omega])
    simp only [List.cons_append, readUvarintAux, toUInt8_toNat (show n % 128 + 128 < 256 by omega),
      show ¬ (n % 128 + 128 < 128) by omega, if_false, Nat.add_mod_right, Nat.mod_mod]
    rw [ih (i + 1) _ rest (by omega) hdiv, pow7_succ, Nat.add_assoc,
      Nat.mul_left_comm, ← Nat.mul_assoc, ← Nat.add_mul, Nat.mod_add_div]

theorem readUvarint_put {n : Nat} (h : n < 2 ^ 64) (rest : Bytes) :
    readUvarint (putUvarint n ++ rest) = .ok (n, rest) := by
  have := readUvarintAux_put n 0 0 rest (by omega) (by simpa using h)
  simpa [readUvarint] using this

theorem putUvarint_length_le (n : Nat) : ∀ k, n < 2 ^ (7 * k) → 1 ≤ k → (putUvarint n).length ≤ k := by
  fun_induction putUvarint n with
  | case1 n h => intro k _ h1; exact h1
  | case2 n h ih =>
    intro k hk h1
    obtain ⟨k, rfl⟩ := Nat.exists_eq_add_one.mpr h1
    have hk0 : k ≠ 0 := by rintro rfl; exact h hk
    have := ih k (div128_lt hk) (by omega)
    rw [List.length_cons]; omega

theorem putUvarint_length_pos (n : Nat) : 1 ≤ (putUvarint n).length :=
  List.length_pos_iff.mpr (putUvarint_ne_nil n)

theorem zigzag_lt {v : Int} (h : inRange 64 v) : zigzag v < 2 ^ 64 := by
  unfold inRange at h; unfold zigzag
  split <;> omega

theorem unzig_zigzag (v : Int) : unzig (zigzag v) = v := by
  unfold unzig zigzag
  split <;> split <;> omega

theorem zigzag_unzig (n : Nat) : zigzag (unzig n) = n := by
  unfold unzig zigzag
  split <;> split <;> omega

theorem unzig_inRange {n : Nat} (h : n < 2 ^ 64) : inRange 64 (unzig n) := by
  unfold inRange unzig
  split <;> omega

/-- Canonical form: every byte but the last has the continuation bit,
the last has not, and the last is non-zero unless the encoding is one byte long. -/
def Canonical : Bytes → Prop
  | [] => False
  | [b] => b.toNat < 128
  | b :: c :: rest => 128 ≤ b.toNat ∧ CanonicalTail (c :: rest)
where
  CanonicalTail : Bytes → Prop
    | [] => False
    | [b] => b.toNat < 128 ∧ b.toNat ≠ 0
    | b :: c :: rest => 128 ≤ b.toNat ∧ CanonicalTail (c :: rest)

theorem putUvarint_canonicalTail (n : Nat) (h0 : n ≠ 0) : Canonical.CanonicalTail (putUvarint n) := by
  fun_induction putUvarint n with
  | case1 n h => simp [Canonical.CanonicalTail, toUInt8_toNat (show n < 256 by omega), h, h0]
  | case2 n h ih =>
    have ih' := ih (by omega)
    cases hp : putUvarint (n / 128) with
    | nil => exact absurd hp (putUvarint_ne_nil _)
    | cons c rest =>
      rw [hp] at ih'
      simp only [Canonical.CanonicalTail]
      refine ⟨?_, ih'⟩
      rw [toUInt8_toNat (by omega)]; omega

/-- the two predicates differ only in the one-byte case, where `Canonical` also admits 0 -/
theorem Canonical.of_tail : ∀ {s : Bytes}, Canonical.CanonicalTail s → Canonical s
  | [_], h => h.1
  | _ :: _ :: _, h => h

theorem putUvarint_canonical (n : Nat) : Canonical (putUvarint n) := by
  by_cases h0 : n = 0
  · subst h0; rw [putUvarint_lt (by decide)]; exact (by decide : (Nat.toUInt8 0).toNat < 128)
  · exact .of_tail (putUvarint_canonicalTail n h0)

/-- the case split behind every fact about `uvarint`: only continuation bytes, or a first byte below 0x80 -/
theorem bytes_split : ∀ (bs : Bytes), (∀ b ∈ bs, 128 ≤ b.toNat) ∨
    ∃ pre t rest, bs = pre ++ t :: rest ∧ (∀ b ∈ pre, 128 ≤ b.toNat) ∧ t.toNat < 128
  | [] => .inl (by simp)
  | b :: tl => by
    by_cases hb : b.toNat < 128
    · exact .inr ⟨[], b, tl, rfl, by simp, hb⟩
    · rcases bytes_split tl with h | ⟨pre, t, rest, rfl, hp, ht⟩
      · exact .inl (by simpa [Nat.le_of_not_lt hb] using h)
      · exact .inr ⟨b :: pre, t, rest, rfl, by simpa [Nat.le_of_not_lt hb] using hp, ht⟩

/-- a truncated varint (every byte has the continuation bit) ends in `io.EOF` -/
theorem readUvarintAux_cont : ∀ (bs : Bytes) (i x : Nat), (∀ b ∈ bs, 128 ≤ b.toNat) →
    readUvarintAux i x bs = .error .eof
  | [], _, _, _ => rfl
  | b :: tl, i, x, h => by
    have hb : ¬ b.toNat < 128 := Nat.not_lt.2 (h b (by simp))
    simp only [readUvarintAux, hb, if_false]
    exact readUvarintAux_cont tl _ _ fun c hc => h c (by simp [hc])

/-- `uvarint` on input whose first byte below 0x80 is `t`, met after the continuation bytes `pre`
at byte index `i + pre.length`: overflow or success is decided there, and what was accumulated
before it stays below the weight of `t`. -/
theorem readUvarintAux_split : ∀ (pre : Bytes) (t : UInt8) (rest : Bytes) (i x : Nat),
    (∀ b ∈ pre, 128 ≤ b.toNat) → t.toNat < 128 →
    ∃ x', (x < 2 ^ (7 * i) → x' < 2 ^ (7 * (i + pre.length))) ∧
      readUvarintAux i x (pre ++ t :: rest) =
        if i + pre.length > 9 ∨ (i + pre.length = 9 ∧ t.toNat > 1) then .error .overflow
        else .ok (x' + t.toNat * 2 ^ (7 * (i + pre.length)), rest)
  | [], t, rest, i, x, _, ht => ⟨x, id, by simp [readUvarintAux, ht]⟩
  | b :: tl, t, rest, i, x, h, ht => by
    have hb : ¬ b.toNat < 128 := Nat.not_lt.2 (h b (by simp))
    obtain ⟨x', hlt, hr⟩ := readUvarintAux_split tl t rest (i + 1) (x + b.toNat % 128 * 2 ^ (7 * i))
      (fun c hc => h c (by simp [hc])) ht
    rw [show i + 1 + tl.length = i + (b :: tl).length by simp; omega] at hlt hr
    refine ⟨x', fun hx => hlt ?_, by simpa only [List.cons_append, readUvarintAux, hb, if_false] using hr⟩
    rw [pow7_succ]
    have : b.toNat % 128 * 2 ^ (7 * i) ≤ 127 * 2 ^ (7 * i) := Nat.mul_le_mul_right _ (by omega)
    omega

theorem readUvarint_cont {bs : Bytes} (h : ∀ b ∈ bs, 128 ≤ b.toNat) : readUvarint bs = .error .eof :=
  readUvarintAux_cont bs 0 0 h

theorem readUvarint_split (pre : Bytes) (t : UInt8) (rest : Bytes) (hpre : ∀ b ∈ pre, 128 ≤ b.toNat)
    (ht : t.toNat < 128) :
    ∃ x', x' < 2 ^ (7 * pre.length) ∧ readUvarint (pre ++ t :: rest) =
      if pre.length > 9 ∨ (pre.length = 9 ∧ t.toNat > 1) then .error .overflow
      else .ok (x' + t.toNat * 2 ^ (7 * pre.length), rest) := by
  obtain ⟨x', hlt, hr⟩ := readUvarintAux_split pre t rest 0 0 hpre ht
  rw [Nat.zero_add] at hlt hr
  exact ⟨x', hlt (by decide), hr⟩

/-- `k` is the number of bytes consumed -/
theorem readUvarint_ok {bs : Bytes} {n : Nat} {rest : Bytes} (h : readUvarint bs = .ok (n, rest)) :
    ∃ k, 1 ≤ k ∧ bs.length = k + rest.length ∧ n < 2 ^ (7 * k) ∧ n < 2 ^ 64 := by
  rcases bytes_split bs with hall | ⟨pre, t, rest', rfl, hp, ht⟩
  · rw [readUvarint_cont hall] at h; cases h
  · obtain ⟨x', hlt, hr⟩ := readUvarint_split pre t rest' hp ht
    rw [hr] at h
    split at h
    · cases h
    · rename_i hc
      cases h
      have hp7 := pow7_succ pre.length
      have ht' : t.toNat * 2 ^ (7 * pre.length) ≤ 127 * 2 ^ (7 * pre.length) :=
        Nat.mul_le_mul_right _ (by omega)
      refine ⟨pre.length + 1, by omega, by simp; omega, by omega, ?_⟩
      -- the terminator is the tenth byte and at most 1, or there are at most nine bytes
      by_cases h9 : pre.length = 9
      · rw [h9] at hlt ⊢
        have : t.toNat * 2 ^ (7 * 9) ≤ 1 * 2 ^ (7 * 9) := Nat.mul_le_mul_right _ (by omega)
        omega
      · have : 2 ^ (7 * (pre.length + 1)) ≤ 2 ^ 64 := Nat.pow_le_pow_right (by omega) (by omega)
        omega

theorem readVarint_ok {bs : Bytes} {v : Int} {rest : Bytes} (h : readVarint bs = .ok (v, rest)) :
    ∃ n, readUvarint bs = .ok (n, rest) ∧ unzig n = v := by
  unfold readVarint at h
  split at h
  · cases h; exact ⟨_, ‹_›, rfl⟩
  · cases h

theorem readVarint_len {bs : Bytes} {v : Int} {rest : Bytes} (h : readVarint bs = .ok (v, rest)) :
    rest.length < bs.length := by
  obtain ⟨_, hu, _⟩ := readVarint_ok h
  obtain ⟨k, hk, hlen, _⟩ := readUvarint_ok hu
  omega

theorem readVarint_writeVarint (v : Int) (hv : inRange 64 v) (rest : Bytes) :
    readVarint (writeVarint v ++ rest) = .ok (v, rest) := by
  unfold readVarint writeVarint
  rw [readUvarint_put (zigzag_lt hv)]
  simp [unzig_zigzag]

theorem inRange_zero {w : Nat} : inRange w 0 := by
  unfold inRange
  have : (0 : Int) < 2 ^ (w - 1) := Int.pow_pos (by decide)
  omega

theorem writeVarint_zero : writeVarint 0 = [0] := by simp [writeVarint, zigzag, putUvarint]
theorem writeVarint_one : writeVarint 1 = [2] := by simp [writeVarint, zigzag, putUvarint]

theorem inRange_of_nat_lt {n : Nat} (h : n < 2 ^ 63) : inRange 64 (n : Int) := by
  unfold inRange; omega

/-- the count of an array / map block as the specification writes it: `k`, or `-k` followed by the byte size -/
theorem readVarint_blockHeader (sized : Bool) {k body : Nat} (hk : k < 2 ^ 63) (tail : Bytes) :
    readVarint ((if sized then writeVarint (-(k : Int)) ++ writeVarint (body : Nat) else writeVarint (k : Int)) ++ tail) =
      .ok ((if sized then -(k : Int) else (k : Int)), (if sized then writeVarint (body : Nat) else []) ++ tail) := by
  cases sized with
  | true =>
    simp only [if_true, List.append_assoc]
    exact readVarint_writeVarint (-(k : Int)) (by unfold inRange; omega) _
  | false =>
    simp only [Bool.false_eq_true, if_false, List.nil_append]
    exact readVarint_writeVarint _ (inRange_of_nat_lt hk) _

/-- a block's count as written is never the terminating zero -/
theorem blockHeader_ne_zero (sized : Bool) {k : Nat} (hk : 0 < k) : ¬ ((if sized then -(k : Int) else (k : Int)) = 0) := by
  cases sized <;> simp <;> omega

theorem inRange_mono {w w' : Nat} {v : Int} (hw' : w ≤ w') (h : inRange w v) :
    inRange w' v := by
  unfold inRange at *
  have h1 : (2 : Int) ^ (w - 1) ≤ 2 ^ (w' - 1) := by
    have := Nat.pow_le_pow_right (n := 2) (by omega) (show w - 1 ≤ w' - 1 by omega)
    exact_mod_cast this
  omega

theorem inRange_32_64 {i : Int} (h : inRange 32 i) : inRange 64 i := inRange_mono (by decide) h

theorem readInt_writeInt {w : Nat} (hw64 : w ≤ 64) {v : Int} (hv : inRange w v)
    (rest : Bytes) : readInt w (writeInt w v ++ rest) = .ok (v, rest) := by
  unfold readInt writeInt
  rw [readVarint_writeVarint v (inRange_mono hw64 hv)]
  simp [hv]

theorem putLE_length (k n : Nat) : (putLE k n).length = k := by
  induction k generalizing n with
  | zero => rfl
  | succ k ih => simp [putLE, ih]

theorem getLE_putLE (k n : Nat) : getLE (putLE k n) = n % 256 ^ k := by
  induction k generalizing n with
  | zero => simp [putLE, getLE, Nat.mod_one]
  | succ k ih =>
    simp only [putLE, getLE, ih]
    rw [toUInt8_toNat (Nat.mod_lt _ (by omega))]
    rw [Nat.pow_succ, Nat.mul_comm (256 ^ k) 256, Nat.mod_mul]

theorem takeN_append (a rest : Bytes) : takeN a.length (a ++ rest) = some (a, rest) := by
  unfold takeN; simp

theorem readFixedBits_putLE (k n : Nat) (rest : Bytes) :
    readFixedBits k (putLE k n ++ rest) = some (n % 256 ^ k, rest) := by
  have := takeN_append (putLE k n) rest
  rw [putLE_length] at this
  simp only [readFixedBits, this, getLE_putLE]

theorem readUvarintAux_ge10 (bs : Bytes) (i x : Nat) (r : Nat × Bytes) (hi : 10 ≤ i) : readUvarintAux i x bs ≠ .ok r := by
  rcases bytes_split bs with h | ⟨pre, t, rest, rfl, hp, ht⟩
  · rw [readUvarintAux_cont bs i x h]; simp
  · obtain ⟨x', _, hr⟩ := readUvarintAux_split pre t rest i x hp ht
    rw [hr, if_pos (by omega)]; simp

/-- every proper prefix of a varint consists of continuation bytes -/
theorem putUvarint_take_cont (n : Nat) : ∀ j, j < (putUvarint n).length →
    ∀ b ∈ (putUvarint n).take j, 128 ≤ b.toNat := by
  fun_induction putUvarint n with
  | case1 n h =>
    intro j hj b hb
    obtain rfl : j = 0 := by simpa using hj
    simp at hb
  | case2 n h ih =>
    intro j hj b hb
    cases j with
    | zero => simp at hb
    | succ j =>
      rcases List.mem_cons.mp (List.take_succ_cons ▸ hb) with rfl | hb
      · rw [toUInt8_toNat (by omega)]; omega
      · exact ih j (by simpa using hj) b hb

theorem writeVarint_length_pos (v : Int) : 0 < (writeVarint v).length := putUvarint_length_pos _

theorem writeVarint_ne_nil (v : Int) : writeVarint v ≠ [] := putUvarint_ne_nil _

end Avro
