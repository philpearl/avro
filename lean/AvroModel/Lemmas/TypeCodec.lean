import AvroModel.Lemmas.NormSpec
import AvroModel.Lemmas.CodecBuilds
/-!
# The codec the library builds for a Go type, as a function of the type

`NewEncoderFor[T]` / `ReadFile` into `T` build the codec for `T` from the schema generated for `T`:
`buildCodec libReg m s (some T) false` with `schemaForType SReg.empty TEnv.empty n [] T = .ok s`.
`fieldCodec N T false` (Lemmas/NormSpec.lean) writes that codec down directly as a function of the
type; the two coincide on the fragment `Frag` on which `fieldCodec` is defined (`built_is_fieldCodec`),
and there the generated schema denotes an Avro schema (`classify_frag`).
-/
namespace Avro

mutual
/-- number of constructors of a type tree -/
def GoType.sz : GoType → Nat
  | .slice e | .array _ e | .ptr e | .custom _ e => e.sz + 1
  | .map k v => k.sz + v.sz + 1
  | .struct _ _ fs => GoField.szList fs + 1
  | _ => 0
def GoField.szList : List GoField → Nat
  | [] => 0
  | .mk _ _ _ _ t :: fs => t.sz + GoField.szList fs + 1
end

mutual
/-- **The fragment**: bool, int16/32/64, float32/64, string, `[]byte`, slices, string-keyed maps,
pointers of any depth, `time.Time`, `null.*`, and structs whose encoded fields (exported, not tagged
"-") have pairwise distinct Avro names and types of the fragment; skipped fields may have any type. -/
def Frag : GoType → Bool
  | .bool | .float32 | .float64 | .string | .time | .nullT _ => true
  | .int w => w == 16 || w == 32 || w == 64
  | .slice e => isU8n e || Frag e
  | .map k v => isStr k && Frag v
  | .ptr e => Frag e
  | .struct _ _ fs => structOk fs && FragFields fs
  | _ => false
def FragFields : List GoField → Bool
  | [] => true
  | .mk n e j b t :: fs => (nameForField (.mk n e j b t) == "-" || Frag t) && FragFields fs
end

/-- the non-null branch of the schema `null.RegisterCodecs` registers -/
def nullInnerS : NullKind → Schema
  | .int => .prim "long"
  | .bool => .prim "boolean"
  | .double | .float => .prim "double"
  | .string | .time => .prim "string"

/-- the nullable wrapper of the generated schema of a union-typed type -/
def wrapN (T : GoType) (u : Schema) : Schema := if unionTyped T then nullableSchema u else u

mutual
/-- the generated schema of `T` without its nullable wrapper -/
def bareSchema : GoType → Schema
  | .bool => .prim "boolean"
  | .int _ => .prim "long"
  | .float32 | .float64 => .prim "double"
  | .string => .prim "string"
  | .slice e => if isU8n e then .prim "bytes" else arraySchema (wrapN e (bareSchema e))
  | .map _ v => mapSchema (wrapN v (bareSchema v))
  | .ptr e => bareSchema e
  | .struct nm pkg fs => recordSchema nm pkg (fieldSchemas fs)
  | .time => .prim "string"
  | .nullT k => nullInnerS k
  | _ => Schema.zero
/-- the record fields `schemaForStruct` generates -/
def fieldSchemas : List GoField → List SchemaField
  | [] => []
  | .mk n e j b t :: fs =>
    if nameForField (.mk n e j b t) == "-" then fieldSchemas fs
    else .mk (nameForField (.mk n e j b t)) (omitWrap (omitEmptyTag j) (wrapN t (bareSchema t))) :: fieldSchemas fs
end

/-- **the schema generated for a type of the fragment**, as a function of the type -/
def genSchema (T : GoType) : Schema := wrapN T (bareSchema T)

mutual
/-- fuel that suffices for `buildCodec` on the bare schema of the type -/
def GoType.bfuel : GoType → Nat
  | .slice e => e.bfuel + 5
  | .map _ v => v.bfuel + 5
  | .ptr e => e.bfuel + 1
  | .struct _ _ fs => GoField.bfuelList fs + fs.length + 6
  | _ => 2
def GoField.bfuelList : List GoField → Nat
  | [] => 0
  | .mk _ _ _ _ t :: fs => max t.bfuel (GoField.bfuelList fs)
end

theorem GoField.bfuel_le_bfuelList {f : GoField} {fs : List GoField} (h : f ∈ fs) :
    f.type.bfuel ≤ GoField.bfuelList fs := by
  induction fs with
  | nil => cases h
  | cons g gs ih =>
    obtain ⟨n, e, j, b, t⟩ := g
    simp only [GoField.bfuelList]
    cases h with
    | head => simp [GoField.type]; omega
    | tail _ h' => have := ih h'; omega


/-- induction over the fragment: leaves, `[]byte`, and the four composite kinds with the fragment
facts of their components -/
theorem frag_induction {P : GoType → Prop}
    (bool : P .bool) (int : ∀ w, Frag (.int w) = true → P (.int w)) (float32 : P .float32) (float64 : P .float64)
    (string : P .string) (time : P .time) (nullT : ∀ k, P (.nullT k)) (bytes : P (.slice (.uint 8)))
    (slice : ∀ e, isU8n e = false → Frag e = true → P e → P (.slice e))
    (map : ∀ v, Frag v = true → P v → P (.map .string v))
    (ptr : ∀ e, Frag e = true → P e → P (.ptr e))
    (struct : ∀ nm pkg fs, structOk fs = true → FragFields fs = true →
      (∀ f ∈ fs, nameForField f ≠ "-" → Frag f.type = true ∧ P f.type) → P (.struct nm pkg fs)) :
    ∀ T, Frag T = true → P T := by
  intro T
  -- the clauses of `Frag`, in its order (12: the kinds outside; 13–14: the field list)
  induction T using Frag.induct (motive_2 := fun fs => FragFields fs = true →
      ∀ f ∈ fs, nameForField f ≠ "-" → Frag f.type = true ∧ P f.type) with
  | case1 => exact fun _ => bool
  | case2 => exact fun _ => float32
  | case3 => exact fun _ => float64
  | case4 => exact fun _ => string
  | case5 => exact fun _ => time
  | case6 k => exact fun _ => nullT k
  | case7 w => exact int w
  | case8 e ih =>
    intro hT
    by_cases hu : isU8n e = true
    · rw [isU8n_eq hu]; exact bytes
    · have hF : Frag e = true := by simpa [Frag, hu] using hT
      exact slice e (by simpa using hu) hF (ih hF)
  | case9 k v ih =>
    intro hT
    simp only [Frag, Bool.and_eq_true] at hT
    rw [isStr_eq hT.1]
    exact map v hT.2 (ih hT.2)
  | case10 e ih => exact fun hT => ptr e (by simpa only [Frag] using hT) (ih (by simpa only [Frag] using hT))
  | case11 nm pkg fs ih =>
    intro hT
    simp only [Frag, Bool.and_eq_true] at hT
    exact struct nm pkg fs hT.1 hT.2 (ih hT.2)
  | case12 => intro hT; simp only [Frag] at hT; contradiction
  | case13 _ f hf _ => cases hf
  | case14 n e j b t fs iht ihfs h f hf hn =>
    simp only [FragFields, Bool.and_eq_true, Bool.or_eq_true, beq_iff_eq] at h
    cases hf with
    | head => exact ⟨h.1.resolve_left hn, iht (h.1.resolve_left hn)⟩
    | tail _ hf => exact ihfs h.2 f hf hn

theorem frag_strip {T : GoType} (h : Frag T = true) : T.strip = T := by
  cases T <;> simp only [Frag] at h <;> first | rfl | contradiction

theorem frag_not_byte (env : TEnv) {T : GoType} (h : Frag T = true) : isByteKind env T = false := by
  cases T <;> simp only [Frag] at h <;> first | rfl | contradiction

theorem frag_isU8n {T : GoType} (h : Frag T = true) : isU8n T = false := by
  cases T <;> simp only [Frag] at h <;> first | rfl | contradiction

theorem frag_sreg {T : GoType} (h : Frag T = true) (h1 : T ≠ .time) (h2 : ∀ k, T ≠ .nullT k) :
    sregLookup SReg.empty T = none := by
  cases T <;> simp only [Frag] at h <;> first | rfl | contradiction | exact absurd rfl h1 | exact absurd rfl (h2 _)

theorem nullInnerS_type (k : NullKind) :
    (nullInnerS k).type ≠ "union" ∧ (nullInnerS k).type ≠ "null" ∧ (nullInnerS k).type ≠ "array" ∧
      (nullInnerS k).type ≠ "map" := by
  cases k <;> exact ⟨by decide, by decide, by decide, by decide⟩

theorem nullTSchema_eq (k : NullKind) : nullTSchema k = nullableSchema (nullInnerS k) := by
  cases k <;> rfl

/-- the bare schema of a type of the fragment is never a union or null; it is an array or map exactly
for the pointer chains to a slice or map -/
theorem bare_type : ∀ T : GoType, Frag T = true →
    (bareSchema T).type ≠ "union" ∧ (bareSchema T).type ≠ "null" ∧
    (T.collChain = true → (bareSchema T).type = "array" ∨ (bareSchema T).type = "map") ∧
    (T.collChain = false → (bareSchema T).type ≠ "array" ∧ (bareSchema T).type ≠ "map") := by
  apply frag_induction
  case nullT => exact fun k => ⟨(nullInnerS_type k).1, (nullInnerS_type k).2.1, nofun, fun _ => (nullInnerS_type k).2.2⟩
  case slice =>
    intro e hu hF _
    rw [collChain_slice, frag_strip hF, hu]
    simp only [bareSchema, hu, Bool.false_eq_true, if_false, arraySchema_type]
    exact ⟨by decide, by decide, fun _ => Or.inl trivial, nofun⟩
  case map =>
    intro v _ _
    simp only [bareSchema, GoType.collChain, mapSchema_type]
    exact ⟨by decide, by decide, fun _ => Or.inr trivial, nofun⟩
  case ptr => exact fun e _ ih => ih
  case struct =>
    intro nm pkg fs _ _ _
    simp only [bareSchema, GoType.collChain, recordSchema_type]
    exact ⟨by decide, by decide, nofun, fun _ => ⟨by decide, by decide⟩⟩
  all_goals intros
  all_goals simp only [bareSchema, GoType.collChain]
  all_goals exact ⟨by decide, by decide, nofun, fun _ => ⟨by decide, by decide⟩⟩

theorem unionTyped_not_coll {T : GoType} (h : unionTyped T = true) : T.collChain = false := by
  cases T <;> simp only [unionTyped] at h <;> try contradiction
  all_goals simp only [GoType.collChain]
  simpa using h

/-- the pointer case of `schemaForType` on the schema of a type of the fragment -/
theorem ptrWrap_gen {e : GoType} (he : Frag e = true) : ptrWrap (genSchema e) = genSchema (.ptr e) := by
  have hb := bare_type e he
  simp only [genSchema, wrapN, bareSchema, unionTyped_ptr]
  by_cases hu : unionTyped e = true
  · have hc := unionTyped_not_coll hu
    simp only [hu, if_true, hc, Bool.not_false]
    exact ptrWrap_eq_self _ (Or.inl rfl)
  · have hu' : unionTyped e = false := by simpa using hu
    simp only [hu', Bool.false_eq_true, if_false]
    by_cases hc : e.collChain = true
    · simp only [hc, Bool.not_true, Bool.false_eq_true, if_false]
      exact ptrWrap_eq_self _ (Or.inr (hb.2.2.1 hc))
    · have hc' : e.collChain = false := by simpa using hc
      simp only [hc', Bool.not_false, if_true]
      exact ptrWrap_eq_nullable _ hb.1 (hb.2.2.2 hc').1 (hb.2.2.2 hc').2

theorem genSchema_slice (e : GoType) : genSchema (.slice e) = bareSchema (.slice e) := rfl
theorem genSchema_map (k v : GoType) : genSchema (.map k v) = bareSchema (.map k v) := rfl
theorem genSchema_struct (nm pkg : String) (fs : List GoField) :
    genSchema (.struct nm pkg fs) = bareSchema (.struct nm pkg fs) := rfl

theorem genFields_frag (rec : GoType → Gen Schema) : ∀ fs : List GoField,
    (∀ f ∈ fs, nameForField f ≠ "-" → rec f.type = .ok (genSchema f.type)) →
    genFields rec fs = .ok (fieldSchemas fs)
  | [], _ => rfl
  | .mk n e j b t :: fs, h => by
    have ih := genFields_frag rec fs (fun f hf => h f (List.mem_cons_of_mem _ hf))
    by_cases hn : nameForField (.mk n e j b t) = "-"
    · simp only [genFields, fieldSchemas, hn, beq_self_eq_true, if_true, ih]
    · have hn' : (nameForField (.mk n e j b t) == "-") = false := by simpa using hn
      have h1 := h _ List.mem_cons_self hn
      simp only [GoField.type] at h1
      simp only [genFields, fieldSchemas, hn', Bool.false_eq_true, if_false, GoField.type, h1, ih,
        GoField.jsonTag, genSchema]

theorem gen_frag_aux (sreg : SReg) (env : TEnv) : ∀ T : GoType, Frag T = true → ∀ n ps, T.depth < n → (∀ p ∈ ps, T.depth < p.depth) →
    schemaForType sreg env n ps T = .ok (genSchema T) := by
  apply frag_induction
  case nullT =>
    intro k n ps hn _
    obtain ⟨m, rfl⟩ : ∃ m, n = m + 1 := ⟨n - 1, by omega⟩
    rw [genSchema, wrapN]; simp only [unionTyped, if_true, bareSchema, ← nullTSchema_eq]; rfl
  case bytes =>
    intro n ps hn hps
    obtain ⟨m, rfl⟩ : ∃ m, n = m + 1 := ⟨n - 1, by omega⟩
    rw [composite_step rfl rfl (fun _ => GoType.noConfusion) hps]
    have hb : isByteKind env (.uint 8) = true := rfl
    simp only [GoType.strip, genKind_slice, genSchema_slice, bareSchema, hb, if_true, isU8n]
  case slice =>
    intro e hu hF ih n ps hn hps
    obtain ⟨m, rfl⟩ : ∃ m, n = m + 1 := ⟨n - 1, by omega⟩
    have he : e.depth < (GoType.slice e).depth := Nat.lt_succ_self _
    rw [composite_step rfl rfl (fun _ => GoType.noConfusion) hps]
    simp only [GoType.strip, genKind_slice, genSchema_slice, bareSchema]
    rw [frag_not_byte _ hF, ih m _ (by omega) (deeper_push hps he)]
    simp only [Bool.false_eq_true, if_false, Gen.map, hu, genSchema]
  case map =>
    intro v hF ih n ps hn hps
    obtain ⟨m, rfl⟩ : ∃ m, n = m + 1 := ⟨n - 1, by omega⟩
    have he : v.depth < (GoType.map .string v).depth := by simp only [GoType.depth]; omega
    have hs : isStringKind env .string = true := rfl
    rw [composite_step rfl rfl (fun _ => GoType.noConfusion) hps]
    simp only [GoType.strip, genKind_map, hs, if_true]
    rw [ih m _ (by omega) (deeper_push hps he), genSchema_map]
    simp only [Gen.map, bareSchema, genSchema]
  case ptr =>
    intro e hF ih n ps hn hps
    obtain ⟨m, rfl⟩ : ∃ m, n = m + 1 := ⟨n - 1, by omega⟩
    have he : e.depth < (GoType.ptr e).depth := Nat.lt_succ_self _
    rw [composite_step rfl rfl (fun _ => GoType.noConfusion) hps]
    simp only [GoType.strip, genKind_ptr]
    rw [ih m _ (by omega) (deeper_push hps he)]
    simp only [Gen.map, ptrWrap_gen hF]
  case struct =>
    intro nm pkg fs _ _ ih n ps hn hps
    obtain ⟨m, rfl⟩ : ∃ m, n = m + 1 := ⟨n - 1, by omega⟩
    rw [composite_step rfl rfl (fun _ => GoType.noConfusion) hps]
    simp only [GoType.strip, genKind_struct]
    rw [genFields_frag _ fs fun f hf hne => by
      have he : f.type.depth < (GoType.struct nm pkg fs).depth :=
        Nat.lt_succ_of_le (GoField.depth_le_depthList hf)
      exact (ih f hf hne).2 m _ (by omega) (deeper_push hps he)]
    simp only [Gen.map, genSchema_struct, bareSchema]
  all_goals
    intros
    rename_i n ps hn _
    obtain ⟨m, rfl⟩ : ∃ m, n = m + 1 := ⟨n - 1, by omega⟩
    rfl

theorem gen_frag (sreg : SReg) (env : TEnv) (T : GoType) (hT : Frag T = true) (n : Nat) (hn : T.depth < n) :
    schemaForType sreg env n [] T = .ok (genSchema T) :=
  gen_frag_aux sreg env T hT n [] hn nofun

theorem encFields_cons_skip {f : GoField} {fs : List GoField} (h : nameForField f = "-") :
    encFields (f :: fs) = encFields fs := by
  simp [encFields, h]

theorem encFields_cons_keep {f : GoField} {fs : List GoField} (h : nameForField f ≠ "-") :
    encFields (f :: fs) = f :: encFields fs := by
  simp [encFields, h]

theorem mem_encFields {g : GoField} {fs : List GoField} (hg : g ∈ fs) (hn : nameForField g ≠ "-") :
    g ∈ encFields fs := by
  simp [encFields, hg, hn]

theorem fieldSchemas_cons (f : GoField) (fs : List GoField) :
    fieldSchemas (f :: fs) =
      if nameForField f == "-" then fieldSchemas fs
      else .mk (nameForField f) (omitWrap (omitEmptyTag f.jsonTag) (genSchema f.type)) :: fieldSchemas fs := by
  obtain ⟨n, e, j, b, t⟩ := f
  simp only [fieldSchemas, GoField.jsonTag, GoField.type, genSchema]

theorem fragFields_cons (f : GoField) (fs : List GoField) :
    FragFields (f :: fs) = ((nameForField f == "-" || Frag f.type) && FragFields fs) := by
  obtain ⟨n, e, j, b, t⟩ := f
  simp only [FragFields, GoField.type]

theorem bfuelList_cons (f : GoField) (fs : List GoField) :
    GoField.bfuelList (f :: fs) = max f.type.bfuel (GoField.bfuelList fs) := by
  obtain ⟨n, e, j, b, t⟩ := f
  simp only [GoField.bfuelList, GoField.type]

/-- the field loop of `buildRecordCodec` on the generated record fields of the struct fields `post`
(the tail of `fs = pre ++ post`): the codecs of the encoded fields, each targeting its own position -/
theorem buildFields_tie (reg : Reg) (N : Nat) (fs : List GoField)
    (ih : ∀ (f : GoField) c, fieldCodec N f.type (omitEmptyTag f.jsonTag) = some c → Frag f.type = true ∧
      ∀ m, f.type.bfuel + 3 ≤ m →
        buildCodec reg m (omitWrap (omitEmptyTag f.jsonTag) (genSchema f.type)) (some f.type) (omitEmptyTag f.jsonTag) = .ok c) :
    ∀ (post pre : List GoField) (cs : List Codec), fs = pre ++ post →
      nodupB ((encFields post).map nameForField) = true →
      allSome ((encFields post).map fun f => fieldCodec N f.type (omitEmptyTag f.jsonTag)) = some cs →
      FragFields post = true ∧
      ∀ m, GoField.bfuelList post + post.length + 4 ≤ m →
        buildFields reg m (fieldSchemas post) (some fs) = .ok (cs, targetsFrom pre.length post)
  | [], pre, cs, _, _, hcs => by
    simp only [encFields, List.filter_nil, List.map_nil, allSome, Option.some.injEq] at hcs
    subst hcs
    refine ⟨rfl, fun m hm => ?_⟩
    obtain ⟨m', rfl⟩ : ∃ m', m = m' + 1 := ⟨m - 1, by omega⟩
    rfl
  | f :: post, pre, cs, hfs, hnd, hcs => by
    have hfs' : fs = (pre ++ [f]) ++ post := by simp [hfs]
    by_cases hn : nameForField f = "-"
    · rw [encFields_cons_skip hn] at hnd hcs
      obtain ⟨hF, hb⟩ := buildFields_tie reg N fs ih post (pre ++ [f]) cs hfs' hnd hcs
      refine ⟨by simp [fragFields_cons, hn, hF], fun m hm => ?_⟩
      simp only [fieldSchemas_cons, hn, beq_self_eq_true, if_true, targetsFrom, bne_self_eq_false,
        Bool.false_eq_true, if_false]
      rw [bfuelList_cons, List.length_cons] at hm
      have := hb m (by omega)
      simpa using this
    · have hn' : (nameForField f == "-") = false := by simpa using hn
      have hn'' : (nameForField f != "-") = true := by simpa using hn
      rw [encFields_cons_keep hn] at hnd hcs
      simp only [List.map_cons] at hnd hcs
      obtain ⟨hnot, hnd'⟩ : nameForField f ∉ (encFields post).map nameForField ∧
          nodupB ((encFields post).map nameForField) = true := by simpa [nodupB] using hnd
      obtain ⟨c, cs', hc, hcs', rfl⟩ := allSome_cons_eq_some.mp hcs
      obtain ⟨hF, hb⟩ := buildFields_tie reg N fs ih post (pre ++ [f]) cs' hfs' hnd' hcs'
      obtain ⟨hFf, hbf⟩ := ih f c hc
      refine ⟨by simp [fragFields_cons, hFf, hF], fun m hm => ?_⟩
      rw [bfuelList_cons, List.length_cons] at hm
      obtain ⟨m', rfl⟩ : ∃ m', m = m' + 1 := ⟨m - 1, by omega⟩
      have hlook : lookupField (nameForField f) fs 0 none = some (pre.length, f) := by
        rw [hfs, lookupField_last pre post f 0 none hn ?_]
        · simp
        · intro g hg heq
          apply hnot
          rw [← heq]
          exact List.mem_map.mpr ⟨g, mem_encFields hg (by rw [heq]; exact hn), rfl⟩
      have h1 := hbf m' (by omega)
      have h2 := hb m' (by omega)
      simp only [List.length_append, List.length_singleton] at h2
      simp only [fieldSchemas_cons, hn', Bool.false_eq_true, if_false, targetsFrom, hn'', if_true,
        buildFields, SchemaField.name, SchemaField.type, hlook, h1, h2, Option.map]

/-- **where `bareCodec` / `fieldCodec` are defined the type is in the fragment and `buildCodec` yields the
same codec** on the bare schema, respectively on the field schema (the generated schema under the
`omitempty` wrapper), with any sufficient fuel. -/
theorem buildCodec_eq_fieldCodec {reg : Reg} (hlib : reg.lib = true) :
    (∀ N T oe, ∀ cb, bareCodec N T oe = some cb →
      Frag T = true ∧ ∀ m, T.bfuel ≤ m → buildCodec reg m (bareSchema T) (some T) oe = .ok cb) ∧
    ∀ N T oe, ∀ c, fieldCodec N T oe = some c →
      Frag T = true ∧ ∀ m, T.bfuel + 3 ≤ m → buildCodec reg m (omitWrap oe (genSchema T)) (some T) oe = .ok c := by
  apply codec_induct
  case slice =>
    intro n oe e ci hu _ ⟨hF, hb⟩
    refine ⟨by simp [Frag, hF], fun m hm => ?_⟩
    simp only [GoType.bfuel] at hm
    obtain ⟨m', rfl⟩ : ∃ m', m = m' + 2 := ⟨m - 2, by omega⟩
    have := hb m' (by omega)
    rw [omitWrap_false] at this
    simp only [bareSchema, hu, Bool.false_eq_true, if_false]
    exact buildCodec_array_ok.mpr ⟨m', ci, rfl, this, rfl⟩
  case map =>
    intro n oe v ci _ ⟨hF, hb⟩
    refine ⟨by simp [Frag, isStr, hF], fun m hm => ?_⟩
    simp only [GoType.bfuel] at hm
    obtain ⟨m', rfl⟩ : ∃ m', m = m' + 2 := ⟨m - 2, by omega⟩
    have := hb m' (by omega)
    rw [omitWrap_false] at this
    exact build_map_ok this
  case ptr =>
    intro n oe e ce _ ⟨hF, hb⟩
    refine ⟨by simpa [Frag] using hF, fun m hm => ?_⟩
    simp only [GoType.bfuel] at hm
    obtain ⟨m', rfl⟩ : ∃ m', m = m' + 1 := ⟨m - 1, by omega⟩
    exact build_ptr_ok (bare_type e hF).1 (bare_type e hF).2.1 (hb m' (by omega))
  case struct =>
    intro n oe nm pkg fs cs hok hcs ih
    obtain ⟨hF, hb⟩ := buildFields_tie reg n fs ih fs [] cs rfl hok hcs
    refine ⟨by simp [Frag, hok, hF], fun m hm => ?_⟩
    simp only [GoType.bfuel] at hm
    obtain ⟨m', rfl⟩ : ∃ m', m = m' + 2 := ⟨m - 2, by omega⟩
    exact buildCodec_record_ok.mpr ⟨m', cs, _, rfl, hb m' (by omega), rfl⟩
  case int =>
    intro n oe w hw
    refine ⟨by rcases hw with rfl | rfl | rfl <;> rfl, fun m hm => ?_⟩
    simp only [GoType.bfuel] at hm
    obtain ⟨m', rfl⟩ : ∃ m', m = m' + 2 := ⟨m - 2, by omega⟩
    rcases hw with rfl | rfl | rfl <;> rfl
  case time =>
    refine fun n oe => ⟨rfl, fun m hm => ?_⟩
    simp only [GoType.bfuel] at hm
    obtain ⟨m', rfl⟩ : ∃ m', m = m' + 1 := ⟨m - 1, by omega⟩
    rw [bareSchema, buildCodec_reg reg m' _ .time oe buildTime (by decide) (by decide) (by simp [regLookup, hlib])]
    rfl
  case nullT =>
    refine fun n oe k => ⟨rfl, fun m hm => ?_⟩
    simp only [GoType.bfuel] at hm
    obtain ⟨m', rfl⟩ : ∃ m', m = m' + 1 := ⟨m - 1, by omega⟩
    rw [bareSchema, buildCodec_reg reg m' _ (.nullT k) oe (buildNull k) (nullInnerS_type k).1 (nullInnerS_type k).2.1
      (by simp [regLookup, hlib])]
    cases k <;> rfl
  case unionTy =>
    intro n T oe cb hu _ ⟨hF, hb⟩
    refine ⟨hF, fun m hm => ?_⟩
    obtain ⟨m', rfl⟩ : ∃ m', m = m' + 3 := ⟨m - 3, by omega⟩
    simp only [genSchema, wrapN, hu, if_true, omitWrap_nullable]
    exact build_union_ok (hb m' (by omega))
  case omitempty =>
    intro n T cb hu _ ⟨hF, hb⟩
    refine ⟨hF, fun m hm => ?_⟩
    obtain ⟨m', rfl⟩ : ∃ m', m = m' + 3 := ⟨m - 3, by omega⟩
    simp only [genSchema, wrapN, hu, Bool.false_eq_true, if_false, omitWrap_true (bare_type T hF).1]
    exact build_union_ok (hb m' (by omega))
  case plain =>
    intro n T cb hu _ ⟨hF, hb⟩
    refine ⟨hF, fun m hm => ?_⟩
    simp only [genSchema, wrapN, hu, Bool.false_eq_true, if_false, omitWrap_false]
    exact hb m (by omega)
  -- bool, float32, float64, string, `[]byte`
  all_goals
    refine fun n oe => ⟨rfl, fun m hm => ?_⟩
    simp only [GoType.bfuel] at hm
    obtain ⟨m', rfl⟩ : ∃ m', m = m' + 2 := ⟨m - 2, by omega⟩
    rfl

theorem allSome_of_forall {α : Type} : ∀ (l : List (Option α)), (∀ x ∈ l, ∃ a, x = some a) → ∃ r, allSome l = some r
  | [], _ => ⟨[], rfl⟩
  | none :: _, h => by obtain ⟨a, ha⟩ := h none List.mem_cons_self; cases ha
  | some a :: l, h => by
    obtain ⟨r, hr⟩ := allSome_of_forall l (fun x hx => h x (List.mem_cons_of_mem _ hx))
    exact ⟨a :: r, by simp [allSome, hr]⟩

theorem field_of_bare {n : Nat} {T : GoType} (h : ∀ oe, ∃ cb, bareCodec n T oe = some cb) (oe : Bool) :
    ∃ c, fieldCodec (n + 1) T oe = some c := by
  simp only [fieldCodec]
  split
  · obtain ⟨cb, hcb⟩ := h oe; exact ⟨_, by rw [hcb]; rfl⟩
  · split
    · obtain ⟨cb, hcb⟩ := h true; exact ⟨_, by rw [hcb]; rfl⟩
    · exact h false

theorem frag_bare : ∀ T : GoType, Frag T = true →
    ∀ N, 2 * T.depth + 1 ≤ N → ∀ oe, ∃ cb, bareCodec N T oe = some cb := by
  -- the codec of a component, as a field: one budget step for `fieldCodec`, the rest for `bareCodec`
  have field : ∀ {e : GoType}, (∀ N, 2 * e.depth + 1 ≤ N → ∀ oe, ∃ cb, bareCodec N e oe = some cb) →
      ∀ n, 2 * e.depth + 2 ≤ n → ∀ oe, ∃ c, fieldCodec n e oe = some c := by
    intro e ih n hn oe
    obtain ⟨k, rfl⟩ : ∃ k, n = k + 1 := ⟨n - 1, by omega⟩
    exact field_of_bare (fun oe => ih k (by omega) oe) oe
  apply frag_induction
  case int =>
    intro w hT N hN oe
    obtain ⟨n, rfl⟩ : ∃ n, N = n + 1 := ⟨N - 1, by omega⟩
    have hw : w = 16 ∨ w = 32 ∨ w = 64 := by
      rcases (by simpa [Frag] using hT : (w = 16 ∨ w = 32) ∨ w = 64) with (h | h) | h <;> simp [h]
    exact ⟨_, by simp only [bareCodec, hw, if_true] <;> rfl⟩
  case slice =>
    intro e hu _ ih N hN oe
    obtain ⟨n, rfl⟩ : ∃ n, N = n + 1 := ⟨N - 1, by omega⟩
    simp only [GoType.depth] at hN
    obtain ⟨c, hc⟩ := field ih n (by omega) false
    exact ⟨_, by rw [bareCodec_slice]; simp only [hu, Bool.false_eq_true, if_false, hc]; rfl⟩
  case map =>
    intro v _ ih N hN oe
    obtain ⟨n, rfl⟩ : ∃ n, N = n + 1 := ⟨N - 1, by omega⟩
    simp only [GoType.depth] at hN
    obtain ⟨c, hc⟩ := field ih n (by omega) false
    exact ⟨_, by rw [bareCodec_map]; simp only [isStr, if_true, hc]; rfl⟩
  case ptr =>
    intro e _ ih N hN oe
    obtain ⟨n, rfl⟩ : ∃ n, N = n + 1 := ⟨N - 1, by omega⟩
    simp only [GoType.depth] at hN
    obtain ⟨c, hc⟩ := ih n (by omega) false
    exact ⟨_, by rw [bareCodec_ptr, hc]; rfl⟩
  case struct =>
    intro nm pkg fs hok _ ih N hN oe
    obtain ⟨n, rfl⟩ : ∃ n, N = n + 1 := ⟨N - 1, by omega⟩
    simp only [GoType.depth] at hN
    obtain ⟨cs, hcs⟩ := allSome_of_forall ((encFields fs).map fun f => fieldCodec n f.type (omitEmptyTag f.jsonTag))
      (by
        intro x hx
        obtain ⟨f, hf, rfl⟩ := List.mem_map.mp hx
        have hf' : f ∈ fs ∧ nameForField f ≠ "-" := by simpa [encFields] using hf
        have hdl := GoField.depth_le_depthList hf'.1
        exact field (ih f hf'.1 hf'.2).2 n (by omega) _)
    exact ⟨_, by rw [bareCodec_struct]; simp only [hok, if_true, hcs]; rfl⟩
  all_goals
    intros
    rename_i N hN oe
    obtain ⟨n, rfl⟩ : ∃ n, N = n + 1 := ⟨N - 1, by omega⟩
    exact ⟨_, by simp only [bareCodec, isU8n, if_true] <;> rfl⟩

theorem frag_field (T : GoType) (hT : Frag T = true) (N : Nat) (hN : 2 * T.depth + 2 ≤ N) (oe : Bool) :
    ∃ c, fieldCodec N T oe = some c := by
  obtain ⟨n, rfl⟩ : ∃ n, N = n + 1 := ⟨N - 1, by omega⟩
  exact field_of_bare (fun oe => frag_bare T hT n (by omega) oe) oe

theorem frag_iff (T : GoType) : Frag T = true ↔ ∃ N c, fieldCodec N T false = some c :=
  ⟨fun h => ⟨2 * T.depth + 2, frag_field T h _ (Nat.le_refl _) false⟩,
   fun ⟨N, c, h⟩ => ((buildCodec_eq_fieldCodec (reg := libReg) rfl).2 N T false c h).1⟩

theorem built_of_fieldCodec {N : Nat} {T : GoType} {c : Codec} (h : fieldCodec N T false = some c)
    (n m : Nat) (hn : T.depth < n) (hm : T.bfuel + 3 ≤ m) :
    schemaForType SReg.empty TEnv.empty n [] T = .ok (genSchema T) ∧
      buildCodec libReg m (genSchema T) (some T) false = .ok c := by
  obtain ⟨hF, hb⟩ := (buildCodec_eq_fieldCodec (reg := libReg) rfl).2 N T false c h
  refine ⟨gen_frag _ _ T hF n hn, ?_⟩
  have := hb m hm
  rwa [omitWrap_false] at this

/-- **The codec the library builds for a Go type is `fieldCodec` of that type.** For every Go type `T`
of the fragment (`Frag`), every stack budget `n` above its nesting depth, every build fuel
`m ≥ T.bfuel + 3` and every budget `N ≥ 2 * T.depth + 2`: schema generation yields a schema `s`
(namely `genSchema T`), `buildCodec` with the library's registry (`time.Time`, `null.*` registered, no
user registrations) builds a codec `c` from `s` for `T`, and `c` is `fieldCodec N T false`. -/
theorem built_is_fieldCodec (T : GoType) (hT : Frag T = true) (n m N : Nat)
    (hn : T.depth < n) (hm : T.bfuel + 3 ≤ m) (hN : 2 * T.depth + 2 ≤ N) :
    ∃ s c, schemaForType SReg.empty TEnv.empty n [] T = .ok s ∧
      buildCodec libReg m s (some T) false = .ok c ∧ fieldCodec N T false = some c := by
  obtain ⟨c, hc⟩ := frag_field T hT N hN false
  obtain ⟨h1, h2⟩ := built_of_fieldCodec hc n m hn hm
  exact ⟨genSchema T, c, h1, h2, hc⟩

theorem builtCodec_eq (T : GoType) (hT : Frag T = true) (hd : T.depth < 100) (hf : T.bfuel + 3 ≤ 100)
    (N : Nat) (hN : 2 * T.depth + 2 ≤ N) :
    (fieldCodec N T false).map Except.ok = some (builtCodec T) := by
  obtain ⟨c, hc⟩ := frag_field T hT N hN false
  obtain ⟨h1, h2⟩ := built_of_fieldCodec hc 100 100 hd hf
  simp only [builtCodec, h1, h2, hc, Option.map]

theorem fieldCodec_budget {N N' : Nat} {T : GoType} {c c' : Codec} (h : fieldCodec N T false = some c)
    (h' : fieldCodec N' T false = some c') : c = c' := by
  have h1 := (built_of_fieldCodec h (T.depth + 1) (T.bfuel + 3) (by omega) (by omega)).2
  have h2 := (built_of_fieldCodec h' (T.depth + 1) (T.bfuel + 3) (by omega) (by omega)).2
  rw [h1] at h2
  cases h2; rfl

theorem classify_nullable {fa : Nat} {u : Schema} {a : ASchema} (h : classify fa u = some a) :
    classify (fa + 3) (nullableSchema u) = some (.union [.null, a]) := by
  obtain ⟨fa', rfl⟩ : ∃ fa', fa = fa' + 1 := by
    cases fa with
    | zero => simp [classify] at h
    | succ k => exact ⟨k, rfl⟩
  have h0 : classify (fa' + 1 + 1) (Schema.prim "null") = some .null := by
    simp [classify, Schema.prim, Schema.type]
  have h2 : classifyBranches (fa' + 1 + 2) [Schema.prim "null", u] = some [.null, a] := by
    simp [classifyBranches, h0, h]
  simp [classify, nullableSchema, Schema.type, Schema.union, h2]

theorem classify_array {fa : Nat} {u : Schema} {a : ASchema} (h : classify fa u = some a) :
    classify (fa + 1) (arraySchema u) = some (.array a) := by
  simp [classify, arraySchema, Schema.type, Schema.object, SchemaObject.items, h]

theorem classify_map {fa : Nat} {u : Schema} {a : ASchema} (h : classify fa u = some a) :
    classify (fa + 1) (mapSchema u) = some (.map a) := by
  simp [classify, mapSchema, Schema.type, Schema.object, SchemaObject.values, h]

theorem classify_record {fa : Nat} {nm pkg : String} {sfs : List SchemaField} {ns : List String} {as : List ASchema}
    (h : classifyFields fa sfs = some (ns, as)) :
    classify (fa + 1) (recordSchema nm pkg sfs) = some (.record ns as) := by
  simp [classify, recordSchema, Schema.type, Schema.object, SchemaObject.fields, h]

theorem classifyFields_frag : ∀ fs : List GoField,
    (∀ f ∈ fs, nameForField f ≠ "-" → ∀ fa, f.type.bfuel + 3 ≤ fa →
      ∃ a, classify fa (omitWrap (omitEmptyTag f.jsonTag) (genSchema f.type)) = some a) →
    ∀ fa, GoField.bfuelList fs + fs.length + 4 ≤ fa → ∃ r, classifyFields fa (fieldSchemas fs) = some r
  | [], _, fa, hfa => by
    obtain ⟨k, rfl⟩ : ∃ k, fa = k + 1 := ⟨fa - 1, by omega⟩
    exact ⟨_, rfl⟩
  | f :: fs, h, fa, hfa => by
    rw [bfuelList_cons, List.length_cons] at hfa
    have ih := classifyFields_frag fs (fun g hg => h g (List.mem_cons_of_mem _ hg))
    rw [fieldSchemas_cons]
    by_cases hn : nameForField f = "-"
    · simp only [hn, beq_self_eq_true, if_true]
      exact ih fa (by omega)
    · have hn' : (nameForField f == "-") = false := by simpa using hn
      simp only [hn', Bool.false_eq_true, if_false]
      obtain ⟨k, rfl⟩ : ∃ k, fa = k + 1 := ⟨fa - 1, by omega⟩
      obtain ⟨a, ha⟩ := h f List.mem_cons_self hn k (by omega)
      obtain ⟨⟨ns, as⟩, hr⟩ := ih k (by omega)
      exact ⟨_, by simp only [classifyFields, SchemaField.type, SchemaField.name, ha, hr] <;> rfl⟩

theorem classify_wrap {T : GoType} (hF : Frag T = true)
    (h : ∀ fa, T.bfuel ≤ fa → ∃ a, classify fa (bareSchema T) = some a) (oe : Bool) (fa : Nat)
    (hfa : T.bfuel + 3 ≤ fa) : ∃ a, classify fa (omitWrap oe (genSchema T)) = some a := by
  obtain ⟨k, rfl⟩ : ∃ k, fa = k + 3 := ⟨fa - 3, by omega⟩
  obtain ⟨a, ha⟩ := h k (by omega)
  have hty := bare_type T hF
  by_cases hu : unionTyped T = true
  · simp only [genSchema, wrapN, hu, if_true, omitWrap_nullable]
    exact ⟨_, classify_nullable ha⟩
  · have hu' : unionTyped T = false := by simpa using hu
    simp only [genSchema, wrapN, hu', Bool.false_eq_true, if_false]
    cases oe with
    | true => rw [omitWrap_true hty.1]; exact ⟨_, classify_nullable ha⟩
    | false => rw [omitWrap_false]; exact h (k + 3) (by omega)

theorem classify_bare : ∀ T : GoType, Frag T = true →
    ∀ fa, T.bfuel ≤ fa → ∃ a, classify fa (bareSchema T) = some a := by
  apply frag_induction
  case slice =>
    intro e hu hF ih fa hfa
    simp only [GoType.bfuel] at hfa
    obtain ⟨k, rfl⟩ : ∃ k, fa = k + 1 := ⟨fa - 1, by omega⟩
    obtain ⟨a, ha⟩ := classify_wrap hF ih false k (by omega)
    rw [omitWrap_false] at ha
    simp only [bareSchema, hu, Bool.false_eq_true, if_false]
    exact ⟨_, classify_array ha⟩
  case map =>
    intro v hF ih fa hfa
    simp only [GoType.bfuel] at hfa
    obtain ⟨k, rfl⟩ : ∃ k, fa = k + 1 := ⟨fa - 1, by omega⟩
    obtain ⟨a, ha⟩ := classify_wrap hF ih false k (by omega)
    rw [omitWrap_false] at ha
    exact ⟨_, classify_map ha⟩
  case ptr =>
    intro e _ ih fa hfa
    simp only [GoType.bfuel] at hfa
    exact ih fa (by omega)
  case struct =>
    intro nm pkg fs _ _ ih fa hfa
    simp only [GoType.bfuel] at hfa
    obtain ⟨k, rfl⟩ : ∃ k, fa = k + 1 := ⟨fa - 1, by omega⟩
    obtain ⟨⟨ns, as⟩, hr⟩ := classifyFields_frag fs
      (fun f hf hn fa hfa => classify_wrap (ih f hf hn).1 (ih f hf hn).2 _ fa hfa) k (by omega)
    exact ⟨_, classify_record hr⟩
  case nullT =>
    intro k fa hfa
    simp only [GoType.bfuel] at hfa
    obtain ⟨j, rfl⟩ : ∃ j, fa = j + 1 := ⟨fa - 1, by omega⟩
    cases k <;> exact ⟨_, by simp [bareSchema, nullInnerS, classify, Schema.prim, Schema.type] <;> rfl⟩
  all_goals
    intros
    rename_i fa hfa
    simp only [GoType.bfuel] at hfa
    obtain ⟨j, rfl⟩ : ∃ j, fa = j + 1 := ⟨fa - 1, by omega⟩
    exact ⟨_, by simp [bareSchema, isU8n, classify, Schema.prim, Schema.type] <;> rfl⟩

/-- **The generated schema of a type of the fragment denotes an Avro schema** (`classify`: the
schema.go representation ↦ the specification's `ASchema`), with any fuel from `T.bfuel + 3` on. -/
theorem classify_frag (T : GoType) (hT : Frag T = true) (fa : Nat) (hfa : T.bfuel + 3 ≤ fa) :
    ∃ a, classify fa (genSchema T) = some a := by
  have := classify_wrap hT (classify_bare T hT) false fa hfa
  rwa [omitWrap_false] at this

/-! non-vacuity: `tBig` (NormSpec.lean) has every case of the fragment; `tSkip` has skipped fields
(unexported, `json:"-"`, `bq:"-"`) of types outside the fragment, also in a nested struct -/

theorem frag_tBig : Frag tBig = true := by decide +kernel
theorem tBig_size : tBig.depth = 5 ∧ tBig.bfuel = 36 := by decide
example : Frag tBig = true := frag_tBig
example : tBig.depth = 5 ∧ tBig.bfuel = 36 := tBig_size

theorem tBig_built : (fieldCodec 20 tBig false).map Except.ok = some (builtCodec tBig) := by
  obtain ⟨hd, hf⟩ := tBig_size
  exact builtCodec_eq tBig frag_tBig (by omega) (by omega) 20 (by omega)
example : (fieldCodec 20 tBig false).map Except.ok = some (builtCodec tBig) := tBig_built
example : (fieldCodec 20 tBig false).map Except.ok = some (builtCodec tBig) := tBig_built

def tSkip : GoType :=
  .struct "Ex" "main" [.mk "a" false "" "" .chan, .mk "B" true "b,omitempty" "" (.int 32), .mk "C" true "-" "" .iface,
    .mk "D" true "" "-" (.int 8),
    .mk "E" true "" "" (.ptr (.struct "In" "main" [.mk "x" false "" "" .string, .mk "Y" true "" "" .time]))]

theorem frag_tSkip : Frag tSkip = true := by decide +kernel
example : Frag tSkip = true := frag_tSkip

example : fieldCodec 8 tSkip false = some (.record
    [.unit, .int 0, .unit, .int 0, .ptr none]
    [.unionOne (.int 32 true) 1,
     .unionOne (.pointer (.record [.str [], .time TimeVal.zero] [.unionOne .timeString 1] [some 1])) 1]
    [some 1, some 4]) := by rfl

example : ∃ s c, schemaForType SReg.empty TEnv.empty 4000 [] tSkip = .ok s ∧
    buildCodec libReg 200 s (some tSkip) false = .ok c ∧ fieldCodec 8 tSkip false = some c :=
  built_is_fieldCodec tSkip frag_tSkip 4000 200 8 (by decide) (by decide) (by decide)

end Avro
