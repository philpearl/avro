import AvroModel.Lemmas.ReadSpec
/-!
Read correctness (C03): for every codec the library can build for a schema, every datum of it,
every legal encoding (any block partition, with or without size prefixes, null in either union
position), every destination and every step budget of at least `readBudget c v`, `read` returns what
`ofAvro` specifies and the exact remainder; a datum that does not fit is an error (`Delivers`).
One induction on the step budget through the six `read` functions (`deliversAt`). Because a result other
than `.fuel` is the result at every larger budget, the statement for every budget follows (`read_spec`);
the statements with the budget as a hypothesis (`read_exact`, `read_misfit`, `read_budget_spec`) are read off.
-/
namespace Avro

theorem rdInt_write {w : Nat} {i : Int} (hi : inRange 64 i) (rest : Bytes) :
    rdInt w (writeVarint i ++ rest) = if inRange w i then .ok (i, rest) else .err := by
  unfold rdInt readInt
  rw [readVarint_writeVarint i hi]
  by_cases h : inRange w i <;> simp [h]

theorem next_putLE (k n : Nat) (rest : Bytes) : next (k : Int) (putLE k n ++ rest) = .ok (putLE k n, rest) := by
  have := next_append (putLE k n) rest
  rwa [putLE_length] at this

theorem rdByte_writeBool (b : Bool) (rest : Bytes) :
    rdByte (writeBool b ++ rest) = .ok ((if b then 1 else 0), rest) := by
  cases b <;> rfl

theorem blockCount_header (sized : Bool) {k body : Nat} (hk0 : 0 < k) (hk : k < 2 ^ 63) (hbody : body < 2 ^ 63) (tail : Bytes) :
    blockCount (if sized then -(k : Int) else (k : Int)) ((if sized then writeVarint (body : Nat) else []) ++ tail) = .ok (k, tail) := by
  unfold blockCount
  cases sized with
  | true =>
    have h2 : (-(k : Int) < 0) := by omega
    simp only [if_true, h2, Outcome.bind_eq, Outcome.pure_eq]
    rw [rdVarint_write _ (inRange_of_nat_lt hbody)]
    simp only [Outcome.bind_ok']
    have hw : wrap64 (- -(k : Int)) = k := by unfold wrap64; omega
    rw [hw]
    have h3 : ¬ ((k : Int) < 0) := by omega
    simp [h3]
  | false =>
    have h2 : ¬ ((k : Int) < 0) := by omega
    simp [h2]

/-- `arrayCodec.Read` rejects a block whose items would take the slice, which holds `len`, past 2^63 - 1 elements -/
theorem arrayBlockCount_header (sized : Bool) {k body : Nat} (hk0 : 0 < k) (hk : k < 2 ^ 63) (hbody : body < 2 ^ 63)
    (tail : Bytes) (len : Nat) :
    arrayBlockCount (if sized then -(k : Int) else (k : Int)) ((if sized then writeVarint (body : Nat) else []) ++ tail) len =
      if (k : Int) > 2 ^ 63 - 1 - (len : Int) then .err else .ok (k, tail) := by
  have hr : ((k : Int) < 0 ∨ (k : Int) > 2 ^ 63 - 1 - (len : Int)) ↔ (k : Int) > 2 ^ 63 - 1 - (len : Int) := by omega
  unfold arrayBlockCount
  cases sized with
  | true =>
    have h2 : (-(k : Int) < 0) := by omega
    have hw : wrap64 (- -(k : Int)) = k := by unfold wrap64; omega
    simp only [if_true, h2, rdVarint_write _ (inRange_of_nat_lt hbody), Outcome.bind_ok', hw, hr, Int.toNat_natCast]
  | false =>
    have h2 : ¬ ((k : Int) < 0) := by omega
    simp only [Bool.false_eq_true, if_false, h2, List.nil_append, Outcome.bind_ok', false_or, Int.toNat_natCast]

variable (env : Env)

/-- as in `ofAvro`: a Go slice holds fewer than 2^63 elements -/
def itemsFit (f : Value → Fit GoVal) (acc : List GoVal) (vs : List Value) : Fit (List GoVal) :=
  if acc.length + vs.length ≥ 2 ^ 63 then .illtyped else (mapFit f vs).bind fun gs => .ok (acc ++ gs)

/-- the contents `MapCodec.Read` is to deliver into a map that holds `ks0`, `vs0`: the entries assigned in order -/
def entriesFit (f : Value → Fit GoVal) (kvs : List (Bytes × Value)) (ks0 : List Bytes) (vs0 : List GoVal) :
    Fit (List Bytes × List GoVal) :=
  (mapFit f (kvs.map (·.2))).bind fun gs => .ok (assignAll (kvs.map (·.1)) gs ks0 vs0)

structure DeliversAt (n : Nat) : Prop where
  read : ∀ m {c s p v bs} rest dst, CodecFor c s → encode p s v = some bs → c.sz + 2 * v.sz + 2 ≤ n →
    Delivers (read env n c (bs ++ rest) dst) (ofAvro env m c v dst) rest
  readFields : ∀ m {cs ss} ts {ps vs bs} rest fs, CodecsFor cs ss → encodeFields ps ss vs = some bs →
    Codec.szList cs + 2 * Value.szList vs + 2 ≤ n →
    Delivers (readFields env n cs ts (bs ++ rest) fs) (fieldsFit (ofAvro env m) cs ts vs fs) rest
  readItems : ∀ m {item s vs es} rest acc, CodecFor item s → ItemsEnc s vs es →
    item.sz + 2 * Value.szList vs + 2 ≤ n →
    Delivers (readItems env n item es.length (es.flatten ++ rest) acc)
      ((mapFit (fun v => ofAvro env m item v (Codec.zero env item)) vs).bind fun gs => .ok (acc ++ gs)) rest
  readArrayBlocks : ∀ m {item s bl vs es bs} rest acc, CodecFor item s → ItemsEnc s vs es → encBlocks bl es = some bs →
    item.sz + 2 * Value.szList vs + 3 ≤ n →
    Delivers (readArrayBlocks env n item (bs ++ rest) acc)
      (itemsFit (fun v => ofAvro env m item v (Codec.zero env item)) acc vs) rest
  readMapItems : ∀ m {val s kvs es} rest ks0 vs0, CodecFor val s → All2 (EntryD true s) kvs es →
    val.sz + 2 * Value.szList (kvs.map (·.2)) + 2 ≤ n →
    Delivers (readMapItems env n val es.length (es.flatten ++ rest) ks0 vs0)
      (entriesFit (fun v => ofAvro env m val v (Codec.zero env val)) kvs ks0 vs0) rest
  readMapBlocks : ∀ m {val s bl kvs es bs} rest ks0 vs0, CodecFor val s → All2 (EntryD true s) kvs es → encBlocks bl es = some bs →
    val.sz + 2 * Value.szList (kvs.map (·.2)) + 3 ≤ n →
    Delivers (readMapBlocks env n val (bs ++ rest) ks0 vs0)
      (entriesFit (fun v => ofAvro env m val v (Codec.zero env val)) kvs ks0 vs0) rest

theorem delivers_leaf (n m : Nat) :
    ∀ {c s p v bs} rest dst, CodecFor c s → c.isPrim = true → encode p s v = some bs →
    Delivers (read env (n + 1) c (bs ++ rest) dst) (ofAvro env (m + 1) c v dst) rest := by
  intro c s p v bs rest dst hc hl he
  -- a fixed-width little-endian number below 256 ^ k is read back as written
  have hle : ∀ (k b : Nat), b < 256 ^ k → ∀ (f : Nat → GoVal) {l : Int}, l = k →
      Delivers ((next l (putLE k b ++ rest)).bind fun p => .ok (f (getLE p.1), p.2)) (.ok (f b)) rest := by
    intro k b hb f l hl
    rw [hl, next_putLE, Outcome.bind_ok', getLE_putLE, Nat.mod_eq_of_lt hb]; exact Delivers.ok _ _
  cases hc <;> (try (cases hl; done))
  case null =>
    obtain ⟨rfl, rfl⟩ := encode_null_inv he
    exact Delivers.ok _ _
  case bool =>
    obtain ⟨b, rfl, rfl⟩ := encode_boolean_inv he
    simp only [read, ofAvro_bool, Outcome.bind_eq, Outcome.pure_eq, rdByte_writeBool, Outcome.bind_ok']
    cases b <;> exact Delivers.ok _ _
  case intI =>
    obtain ⟨i, rfl, hr, rfl⟩ := encode_int_inv he
    simp only [read, ofAvro_int, Outcome.bind_eq, Outcome.pure_eq, rdInt_write (inRange_32_64 hr)]
    split
    · exact Delivers.ok _ _
    · exact Delivers.err _
  case intL =>
    obtain ⟨i, rfl, hr, rfl⟩ := encode_long_inv he
    simp only [read, ofAvro_int, Outcome.bind_eq, Outcome.pure_eq, rdInt_write hr]
    split
    · exact Delivers.ok _ _
    · exact Delivers.err _
  case float =>
    obtain ⟨b, rfl, hb, rfl⟩ := encode_float_inv he
    exact hle 4 b (by omega) .f32 rfl
  case double =>
    obtain ⟨b, rfl, hb, rfl⟩ := encode_double_inv he
    exact hle 8 b (by omega) .f64 rfl
  case f32double =>
    obtain ⟨b, rfl, hb, rfl⟩ := encode_double_inv he
    exact hle 8 b (by omega) (fun x => .f32 (env.narrow x)) rfl
  case bytes =>
    obtain ⟨b, rfl, hl, rfl⟩ := encode_bytes_inv he
    simp only [read, ofAvro_bytes, Outcome.bind_eq, Outcome.pure_eq, rdVarint_encBytes hl, Outcome.bind_ok']
    cases b with
    | nil => simp; exact Delivers.ok _ _
    | cons x xs =>
      have h0 : ¬ (((x :: xs).length : Nat) : Int) = 0 := by simp; omega
      rw [if_neg h0, next_append]
      simp only [Outcome.bind_ok', List.isEmpty_cons]
      exact Delivers.ok _ _
  case string =>
    obtain ⟨b, rfl, hl, rfl⟩ := encode_string_inv he
    simp only [read, ofAvro_string, Outcome.bind_eq, Outcome.pure_eq, rdVarint_encBytes hl, Outcome.bind_ok']
    have h0 : ¬ ((b.length : Int) < 0) := by omega
    rw [if_neg h0, next_append]
    exact Delivers.ok _ _
  case fixed =>
    obtain ⟨rfl, hl⟩ := encode_fixed_inv he
    simp only [read, ofAvro_fixed, Outcome.bind_eq, Outcome.pure_eq]
    subst hl
    rw [next_append]
    exact Delivers.ok _ _
  case timeString =>
    obtain ⟨b, rfl, hl, rfl⟩ := encode_string_inv he
    simp only [read, ofAvro_timeString, Outcome.bind_eq, Outcome.pure_eq, rdVarint_encBytes hl, Outcome.bind_ok']
    cases b with
    | nil => simp; exact Delivers.ok _ _
    | cons x xs =>
      have h0 : ¬ (((x :: xs).length : Nat) : Int) = 0 := by simp; omega
      rw [if_neg h0, next_append]
      simp only [Outcome.bind_ok', List.isEmpty_cons]
      cases env.parseTime (x :: xs) with
      | some t => exact Delivers.ok _ _
      | none => exact Delivers.err _
  case timeLong =>
    obtain ⟨i, rfl, hr, rfl⟩ := encode_long_inv he
    simp only [read, ofAvro_timeLong, Outcome.bind_eq, Outcome.pure_eq, rdInt_write hr, if_pos hr, Outcome.bind_ok']
    exact Delivers.ok _ _
  case date =>
    obtain ⟨i, rfl, hr, rfl⟩ := encode_int_inv he
    simp only [read, ofAvro_date, Outcome.bind_eq, Outcome.pure_eq, rdInt_write (inRange_32_64 hr), if_pos hr, Outcome.bind_ok']
    exact Delivers.ok _ _

theorem delivers_read (n : Nat) (ih : DeliversAt env n) :
    ∀ m {c s p v bs} rest dst, CodecFor c s → encode p s v = some bs → c.sz + 2 * v.sz + 2 ≤ n + 1 →
    Delivers (read env (n + 1) c (bs ++ rest) dst) (ofAvro env (m + 1) c v dst) rest := by
  intro m c s p v bs rest dst hc he hn
  by_cases hl : c.isPrim = true
  · exact delivers_leaf env n m rest dst hc hl he
  -- the payload of a `null.*` wrapper, and the string of `unionNullString`, is read by a leaf codec with the budget that is left
  have hinner : ∀ {c' s' p' v' bs'} g, CodecFor c' s' → c'.isPrim = true → encode p' s' v' = some bs' →
      (∀ d, ofAvro env 1 c' v' d = .ok g) → ∀ d, Delivers (read env n c' (bs' ++ rest) d) (.ok g) rest := by
    intro c' s' p' v' bs' g hc' hl' he' hg d
    obtain ⟨n', rfl⟩ : ∃ k, n = k + 1 := ⟨n - 1, by omega⟩
    rw [← hg d]; exact delivers_leaf env n' 0 rest d hc' hl' he'
  -- a `null.*` wrapper whose payload codec delivers `g`: `Valid` is set and the payload stored (a float widened)
  have hnull : ∀ {k : NullKind} {s'} g, CodecFor (nullInner k) s' → encode p s' v = some bs →
      (∀ d, ofAvro env 1 (nullInner k) v d = .ok g) → ∀ d,
      ofAvro env (m + 1) (.nullw k) v d =
        .ok (.nullw true (match k, g with | .float, .f32 b => .f64 (env.widen b) | _, x => x)) →
      Delivers (read env (n + 1) (.nullw k) (bs ++ rest) d) (ofAvro env (m + 1) (.nullw k) v d) rest := by
    intro k s' g hc' he' hg d hof
    rw [hof]
    simp only [read, Outcome.bind_eq, Outcome.pure_eq]
    rw [show read env n _ _ _ = _ from hinner g hc' (by cases k <;> rfl) he' hg _]
    exact Delivers.ok _ _
  -- the two nullable-union codecs, for either position of `null`
  have hone : ∀ {c' s'} {nn : Nat}, nn < 2 → CodecFor c' s' →
      encode p (.union (if nn = 0 then [s', .null] else [.null, s'])) v = some bs →
      (Codec.unionOne c' nn).sz + 2 * v.sz + 2 ≤ n + 1 → ∀ d,
      Delivers (read env (n + 1) (.unionOne c' nn) (bs ++ rest) d) (ofAvro env (m + 1) (.unionOne c' nn) v d) rest := by
    intro c' s' nn hnn hc' he hn d
    obtain ⟨idx, v', p', e, b, rfl, hidx, hb, rfl, hbr⟩ := encode_nullable_inv hnn he rest
    simp only [Codec.sz, Value.sz] at hn
    simp only [read, ofAvro_unionOne, Outcome.bind_eq, Outcome.pure_eq, hb, Outcome.bind_ok', if_neg (Nat.not_le.mpr hidx)]
    split at hbr
    · rw [if_pos (by assumption), if_pos (by assumption)]; exact ih.read m _ _ hc' hbr (by omega)
    · rw [if_neg (by assumption), if_neg (by assumption), hbr]; exact Delivers.ok _ _
  have hstr : ∀ {o} {nn : Nat}, nn < 2 →
      encode p (.union (if nn = 0 then [.string, .null] else [.null, .string])) v = some bs → ∀ d,
      Delivers (read env (n + 1) (.unionNullString o nn) (bs ++ rest) d)
        (ofAvro env (m + 1) (.unionNullString o nn) v d) rest := by
    intro o nn hnn he d
    obtain ⟨idx, v', p', e, b, rfl, hidx, hb, rfl, hbr⟩ := encode_nullable_inv hnn he rest
    simp only [read, ofAvro_unionNullString, Outcome.bind_eq, Outcome.pure_eq, hb, Outcome.bind_ok', if_neg (Nat.not_le.mpr hidx)]
    split at hbr
    · obtain ⟨sb, rfl, _, rfl⟩ := encode_string_inv hbr
      rw [if_pos (by assumption), if_pos (by assumption)]
      exact hinner (.str sb) CodecFor.string rfl hbr (fun _ => rfl) d
    · rw [if_neg (by assumption), if_neg (by assumption), hbr]; exact Delivers.ok _ _
  cases hc <;> (try exact absurd rfl hl)
  case array hitem =>
    obtain ⟨bl, subs, vs, encs, rfl, rfl, hi, hb⟩ := encode_array_inv he
    simp only [Codec.sz, Value.sz] at hn
    cases dst <;> (try exact Delivers.illtyped (Done.stuck _))
    all_goals simp only [read, ofAvro_array]
    rename_i items
    simp only [Outcome.bind_eq, Outcome.pure_eq]
    have h2 := Delivers.bind (k := fun x => Outcome.ok (GoVal.slice x.1, x.2)) (k' := fun l => Fit.ok (GoVal.slice l))
      (ih.readArrayBlocks m rest items hitem (encodeItems_inv hi) hb (by omega)) (fun g => Delivers.ok _ _)
    unfold itemsFit at h2
    split
    · rw [if_pos (by assumption)] at h2; exact h2
    · rw [if_neg (by assumption), Fit.bind_assoc] at h2; exact h2
  case map hval =>
    obtain ⟨bl, subs, ks, vs, encs, rfl, rfl, hlen, hks, hi, hb⟩ := encode_map_inv he
    simp only [Codec.sz, Value.sz] at hn
    cases dst <;> (try exact Delivers.illtyped (Done.stuck _))
    all_goals simp only [read, ofAvro_map]
    rename_i nl ks0 vs0
    simp only [Outcome.bind_eq, Outcome.pure_eq]
    have h2 := Delivers.bind (k := fun x => Outcome.ok (GoVal.map false x.1.1 x.1.2, x.2))
      (k' := fun (l : List Bytes × List GoVal) => Fit.ok (GoVal.map false l.1 l.2))
      (ih.readMapBlocks m rest ks0 vs0 hval (entries_of_map (encodeItems_inv hi) ks hlen hks) hb
        (by rw [zip_map_snd ks vs hlen]; omega)) (fun g => Delivers.ok _ _)
    rw [entriesFit, zip_map_fst ks vs hlen, zip_map_snd ks vs hlen, Fit.bind_assoc] at h2
    exact h2
  case pointer hc' =>
    simp only [Codec.sz] at hn
    cases dst <;> (try exact Delivers.illtyped (Done.stuck _))
    rename_i tgt
    have h := fun d => Delivers.bind (k := fun x => Outcome.ok (GoVal.ptr (some x.1), x.2)) (k' := fun g => Fit.ok (GoVal.ptr (some g)))
      (ih.read m rest d hc' he (by omega)) (fun g => Delivers.ok _ _)
    cases tgt
    · simp only [read, ofAvro_ptr_none, Outcome.bind_eq, Outcome.pure_eq]; exact h _
    · simp only [read, ofAvro_ptr_some, Outcome.bind_eq, Outcome.pure_eq]; exact h _
  case record hcs _ =>
    obtain ⟨bl, subs, vs, rfl, rfl, hf⟩ := encode_record_inv he
    simp only [Codec.sz, Value.sz] at hn
    cases dst <;> (try exact Delivers.illtyped (Done.stuck _))
    all_goals simp only [read, ofAvro_record]
    rename_i fs
    simp only [Outcome.bind_eq, Outcome.pure_eq]
    exact Delivers.bind
      (ih.readFields m _ _ fs hcs hf (by omega)) (fun g => Delivers.ok _ _)
  case union cs ss hcs =>
    obtain ⟨idx, v', p', e, c', s', rfl, hc', hf, he', hrd, hr⟩ := encode_union_rd hcs he rest
    have hsz := Codec.sz_le_of_getElem? hc'
    simp only [Codec.sz, Value.sz] at hn
    simp only [read, ofAvro_union, Outcome.bind_eq, hrd, Outcome.bind_ok', if_neg hr, Int.toNat_natCast, hc']
    exact ih.read m _ _ hf he' (by omega)
  case unionOne0 hc' => exact hone (nn := 0) (by decide) hc' he hn dst
  case unionOne1 hc' => exact hone (nn := 1) (by decide) hc' he hn dst
  case unionNullString0 => exact hstr (nn := 0) (by decide) he dst
  case unionNullString1 => exact hstr (nn := 1) (by decide) he dst
  case nullInt =>
    obtain ⟨i, rfl, hr, rfl⟩ := encode_long_inv he
    exact hnull (k := .int) (.int i) .intL he (fun _ => (ofAvro_int env 0 _ 64 false i).trans (if_pos hr)) dst rfl
  case nullIntI =>
    obtain ⟨i, rfl, hr, rfl⟩ := encode_int_inv he
    exact hnull (k := .int) (.int i) .intI he (fun _ => (ofAvro_int env 0 _ 64 false i).trans (if_pos (inRange_32_64 hr))) dst rfl
  case nullBool =>
    obtain ⟨b, rfl, rfl⟩ := encode_boolean_inv he
    exact hnull (k := .bool) (.bool b) .bool he (fun _ => rfl) dst rfl
  case nullDouble =>
    obtain ⟨b, rfl, hb, rfl⟩ := encode_double_inv he
    exact hnull (k := .double) (.f64 b) .double he (fun _ => rfl) dst rfl
  case nullFloat =>
    obtain ⟨b, rfl, hb, rfl⟩ := encode_float_inv he
    exact hnull (k := .float) (.f32 b) .float he (fun _ => rfl) dst rfl
  case nullString =>
    obtain ⟨b, rfl, hl, rfl⟩ := encode_string_inv he
    exact hnull (k := .string) (.str b) .string he (fun _ => rfl) dst rfl
  case nullTime =>
    obtain ⟨b, rfl, hl, rfl⟩ := encode_string_inv he
    obtain ⟨n', rfl⟩ : ∃ k, n = k + 1 := ⟨n - 1, by omega⟩
    have h1 := delivers_leaf env n' 0 rest (match dst with | .nullw _ x => x | x => x) .timeString rfl he
    simp only [ofAvro_timeString] at h1
    simp only [read, ofAvro_nullw_time, nullInner, Outcome.bind_eq, Outcome.pure_eq]
    have h2 := Delivers.bind (k := fun x => Outcome.ok (GoVal.nullw true x.1, x.2)) (k' := fun g => Fit.ok (GoVal.nullw true g))
      h1 (fun g => Delivers.ok _ _)
    cases hb : b.isEmpty with
    | true => simp only [hb, if_true, Fit.bind_ok'] at h2 ⊢; exact h2
    | false =>
      simp only [hb, Bool.false_eq_true, if_false] at h2 ⊢
      cases hp : env.parseTime b with
      | some t => simp only [hp, Fit.bind_ok'] at h2 ⊢; exact h2
      | none => simp only [hp, Fit.bind_misfit'] at h2 ⊢; exact h2

theorem delivers_readFields (n : Nat) (ih : DeliversAt env n) :
    ∀ m {cs ss} ts {ps vs bs} rest fs, CodecsFor cs ss → encodeFields ps ss vs = some bs →
    Codec.szList cs + 2 * Value.szList vs + 2 ≤ n + 1 →
    Delivers (readFields env (n + 1) cs ts (bs ++ rest) fs) (fieldsFit (ofAvro env m) cs ts vs fs) rest := by
  intro m cs ss ts ps vs bs rest fs hcs he hn
  cases hcs with
  | nil =>
    obtain ⟨rfl, rfl, rfl⟩ := encodeFields_nil_inv he
    exact Delivers.ok _ _
  | cons h1 h2 =>
    obtain ⟨p, ps', v, vs', a, b, rfl, rfl, ha, hb, rfl⟩ := encodeFields_cons_inv he
    simp only [Codec.szList, Value.szList] at hn
    cases ts with
    | nil => exact Delivers.illtyped (Done.stuck _)
    | cons t ts =>
      cases t with
      | none =>
        simp only [readFields, fieldsFit_skip, Outcome.bind_eq, List.append_assoc]
        rw [(skipBudAt env n).skip _ h1 ha (by omega)]
        exact ih.readFields m _ _ fs h2 hb (by omega)
      | some i =>
        simp only [readFields, fieldsFit_cons, List.append_assoc]
        cases hfi : fs[i]? with
        | none => exact Delivers.illtyped (Done.stuck _)
        | some cur =>
          simp only [Outcome.bind_eq]
          exact Delivers.bind
            (ih.read m _ cur h1 ha (by omega)) (fun g => ih.readFields m _ _ _ h2 hb (by omega))

theorem delivers_readItems (n : Nat) (ih : DeliversAt env n) :
    ∀ m {item s vs es} rest acc, CodecFor item s → ItemsEnc s vs es →
    item.sz + 2 * Value.szList vs + 2 ≤ n + 1 →
    Delivers (readItems env (n + 1) item es.length (es.flatten ++ rest) acc)
      ((mapFit (fun v => ofAvro env m item v (Codec.zero env item)) vs).bind fun gs => .ok (acc ++ gs)) rest := by
  intro m item s vs es rest acc hitem henc hn
  cases henc with
  | nil => simp only [List.length_nil, readItems, mapFit_nil, Fit.bind_ok', List.append_nil, List.flatten_nil, List.nil_append]; exact Delivers.ok _ _
  | cons hr ht =>
    obtain ⟨p, hp⟩ := hr
    simp only [Value.szList] at hn
    simp only [List.length_cons, readItems, mapFit_cons, List.flatten_cons, List.append_assoc, Outcome.bind_eq]
    rw [Fit.bind_assoc]
    refine Delivers.bind (ih.read m _ _ hitem hp (by omega)) ?_
    intro g
    have := ih.readItems m rest (acc ++ [g]) hitem ht (by omega)
    rw [Fit.bind_assoc]
    simp only [Fit.bind_ok', List.append_assoc, List.cons_append, List.nil_append] at this ⊢
    exact this

theorem itemsFit_append {f : Value → Fit GoVal} {acc : List GoVal} {a b : List Value}
    (h : ¬ acc.length + (a ++ b).length ≥ 2 ^ 63) :
    itemsFit f acc (a ++ b) = ((mapFit f a).bind fun ga => .ok (acc ++ ga)).bind fun g => itemsFit f g b := by
  rw [itemsFit, if_neg h, mapFit_append, Fit.bind_assoc, Fit.bind_assoc]
  cases ha : mapFit f a with
  | ok ga =>
    have hl : ¬ (acc ++ ga).length + b.length ≥ 2 ^ 63 := by
      rw [List.length_append, mapFit_length ha]; rw [List.length_append] at h; omega
    simp only [Fit.bind_ok', itemsFit, if_neg hl, Fit.bind_assoc, List.append_assoc]
  | misfit => rfl
  | illtyped => rfl

theorem delivers_readArrayBlocks (n : Nat) (ih : DeliversAt env n) :
    ∀ m {item s bl vs es bs} rest acc, CodecFor item s → ItemsEnc s vs es → encBlocks bl es = some bs →
    item.sz + 2 * Value.szList vs + 3 ≤ n + 1 →
    Delivers (readArrayBlocks env (n + 1) item (bs ++ rest) acc)
      (itemsFit (fun v => ofAvro env m item v (Codec.zero env item)) acc vs) rest := by
  intro m item s bl vs es bs rest acc hitem henc hb hn
  cases bl with
  | nil =>
    obtain ⟨rfl, rfl⟩ := encBlocks_nil_inv hb
    cases henc
    simp only [readArrayBlocks, Outcome.bind_eq, Outcome.pure_eq]
    rw [rdVarint_write 0 inRange_zero]
    simp only [Outcome.bind_ok', if_true]
    unfold itemsFit
    split
    · exact Delivers.illtyped (Done.ok _ _)
    · simp only [mapFit_nil, Fit.bind_ok', List.append_nil]; exact Delivers.ok _ _
  | cons blk bl =>
    obtain ⟨k, sized⟩ := blk
    obtain ⟨vs₁, vs₂, es₁, es₂, tl, rfl, h₁, h₂, hne, hk0, rfl, hk63, hbody63, htl, rfl⟩ := encBlocks_cons_split henc hb
    have hpos := Value.szList_pos hne
    rw [Value.szList_append] at hn
    simp only [readArrayBlocks, Outcome.bind_eq, Outcome.pure_eq]
    rw [List.append_assoc, List.append_assoc, rdVarint_blockHeader sized hk63]
    simp only [Outcome.bind_ok']
    rw [if_neg (blockHeader_ne_zero sized hk0), arrayBlockCount_header sized hk0 hk63 hbody63]
    -- the items of this block, then the remaining blocks: what that delivers is the specification
    -- unless the slice gets too long, and in any case it finishes
    have h := Delivers.bind (k := fun x => readArrayBlocks env n item x.2 x.1)
      (ih.readItems m (tl ++ rest) acc hitem h₁ (by omega))
      (fun g => ih.readArrayBlocks m rest g hitem h₂ htl (by omega))
    have hl := h₁.length_eq
    by_cases hbig : acc.length + (vs₁ ++ vs₂).length ≥ 2 ^ 63
    · rw [itemsFit, if_pos hbig]
      split
      · exact Delivers.illtyped (Done.err _)
      · exact Delivers.illtyped h.done
    · rw [if_neg (by rw [List.length_append] at hbig; omega), itemsFit_append hbig]; exact h

theorem delivers_readMapItems (n : Nat) (ih : DeliversAt env n) :
    ∀ m {val s kvs es} rest ks0 vs0, CodecFor val s → All2 (EntryD true s) kvs es →
    val.sz + 2 * Value.szList (kvs.map (·.2)) + 2 ≤ n + 1 →
    Delivers (readMapItems env (n + 1) val es.length (es.flatten ++ rest) ks0 vs0)
      (entriesFit (fun v => ofAvro env m val v (Codec.zero env val)) kvs ks0 vs0) rest := by
  intro m val s kvs es rest ks0 vs0 hval henc hn
  cases henc with
  | nil => exact Delivers.ok _ _
  | @cons kv e kvs' es' hr ht =>
    obtain ⟨key, v⟩ := kv
    obtain ⟨p, d, hp, ⟨h, _⟩ | ⟨_, hkl, rfl⟩⟩ := hr
    · cases h
    simp only [List.map_cons, Value.szList] at hn
    simp only [List.length_cons, readMapItems, entriesFit, List.map_cons, mapFit_cons, List.flatten_cons, Outcome.bind_eq,
      List.append_assoc, rdVarint_encBytes hkl, Outcome.bind_ok']
    have h0 : ¬ ((key.length : Int) < 0) := by omega
    rw [if_neg h0, next_append]
    simp only [Outcome.bind_ok']
    rw [Fit.bind_assoc]
    refine Delivers.bind
      (ih.read m (es'.flatten ++ rest) (Codec.zero env val) hval hp (by omega)) ?_
    intro g
    have := ih.readMapItems m rest (mapAssign key g ks0 vs0).1 (mapAssign key g ks0 vs0).2 hval ht (by omega)
    rw [Fit.bind_assoc]
    simp only [entriesFit, Fit.bind_ok', assignAll_cons] at this ⊢
    exact this

theorem entriesFit_append (f : Value → Fit GoVal) (a b : List (Bytes × Value)) (ks0 : List Bytes) (vs0 : List GoVal) :
    entriesFit f (a ++ b) ks0 vs0 = (entriesFit f a ks0 vs0).bind fun kv => entriesFit f b kv.1 kv.2 := by
  simp only [entriesFit, List.map_append, mapFit_append, Fit.bind_assoc]
  cases ha : mapFit f (a.map (·.2)) with
  | ok ga =>
    have hl : (a.map (·.1)).length = ga.length := by rw [mapFit_length ha, List.length_map, List.length_map]
    simp only [Fit.bind_ok', assignAll_append hl]
  | misfit => rfl
  | illtyped => rfl

theorem delivers_readMapBlocks (n : Nat) (ih : DeliversAt env n) :
    ∀ m {val s bl kvs es bs} rest ks0 vs0, CodecFor val s → All2 (EntryD true s) kvs es → encBlocks bl es = some bs →
    val.sz + 2 * Value.szList (kvs.map (·.2)) + 3 ≤ n + 1 →
    Delivers (readMapBlocks env (n + 1) val (bs ++ rest) ks0 vs0)
      (entriesFit (fun v => ofAvro env m val v (Codec.zero env val)) kvs ks0 vs0) rest := by
  intro m val s bl kvs es bs rest ks0 vs0 hval henc hb hn
  cases bl with
  | nil =>
    obtain ⟨rfl, rfl⟩ := encBlocks_nil_inv hb
    cases henc
    simp only [readMapBlocks, Outcome.bind_eq, Outcome.pure_eq]
    rw [rdVarint_write 0 inRange_zero]
    simp only [Outcome.bind_ok', if_true]
    exact Delivers.ok _ _
  | cons blk bl =>
    obtain ⟨k, sized⟩ := blk
    obtain ⟨kvs₁, kvs₂, es₁, es₂, tl, rfl, h₁, h₂, hne, hk0, rfl, hk63, hbody63, htl, rfl⟩ := encBlocks_cons_split henc hb
    have hpos := Value.szList_pos (vs := kvs₁.map (·.2)) (by simpa using hne)
    simp only [List.map_append, Value.szList_append] at hn
    simp only [readMapBlocks, Outcome.bind_eq, Outcome.pure_eq]
    rw [List.append_assoc, List.append_assoc, rdVarint_blockHeader sized hk63]
    simp only [Outcome.bind_ok']
    rw [if_neg (blockHeader_ne_zero sized hk0), blockCount_header sized hk0 hk63 hbody63, entriesFit_append]
    exact Delivers.bind
      (ih.readMapItems m (tl ++ rest) ks0 vs0 hval h₁ (by omega))
      (fun g => ih.readMapBlocks m rest g.1 g.2 hval h₂ htl (by omega))

theorem deliversAt : ∀ n, DeliversAt env n
  | 0 => by constructor <;> intros <;> omega
  | n + 1 => by
    have ih := deliversAt n
    refine ⟨fun m => ?_, delivers_readFields env n ih, delivers_readItems env n ih, delivers_readArrayBlocks env n ih,
      delivers_readMapItems env n ih, delivers_readMapBlocks env n ih⟩
    -- `ofAvro` with no budget is `.illtyped`: the call still finishes, as it does for `ofAvro` with budget 1
    cases m with
    | zero => exact fun rest dst hc he hn => Delivers.illtyped (delivers_read env n ih 0 rest dst hc he hn).done
    | succ m => exact delivers_read env n ih m

theorem read_delivers {c : Codec} {s : ASchema} {p : Plan} {v : Value} {bs : Bytes} (hcf : CodecFor c s)
    (he : encode p s v = some bs) {n : Nat} (hn : readBudget c v ≤ n) (rest : Bytes) (m : Nat) (dst : GoVal) :
    Delivers (read env n c (bs ++ rest) dst) (ofAvro env m c v dst) rest :=
  (deliversAt env n).read m rest dst hcf he hn

theorem read_spec {c : Codec} {s : ASchema} {p : Plan} {v : Value} {bs : Bytes} (hcf : CodecFor c s)
    (he : encode p s v = some bs) (n m : Nat) (rest : Bytes) (dst : GoVal) :
    ReadSpec (read env n c (bs ++ rest) dst) (ofAvro env m c v dst) rest := by
  rcases fuel_or_of_budget (f := fun n => read env n c (bs ++ rest) dst) (P := (Delivers · (ofAvro env m c v dst) rest))
    (fun _ hk => read_delivers env hcf he hk rest m dst) (fun _ hk h => read_mono env hk h) with h | h
  · rw [h]; exact ReadSpec.fuel _ _
  · exact h.readSpec

/-- `Delivers` as the C03 statements put it: for the combinations typing excludes only "finished", without the
claim about the remainder -/
def ReadExact {α : Type} (o : Outcome (α × Bytes)) (f : Fit α) (rest : Bytes) : Prop :=
  match f with
  | .ok g => o = .ok (g, rest)
  | .misfit => o = .err
  | .illtyped => o ≠ .fuel

theorem Delivers.readExact {α : Type} {o : Outcome (α × Bytes)} {f : Fit α} {rest : Bytes} (h : Delivers o f rest) :
    ReadExact o f rest := by
  cases f with
  | ok g => exact h
  | misfit => exact h
  | illtyped => exact Done.ne_fuel h

/-- on success exactly the datum's bytes were consumed — also for destinations of the wrong shape -/
theorem read_budget_rest {c : Codec} {s : ASchema} {p : Plan} {v : Value} {bs : Bytes} (hcf : CodecFor c s)
    (he : encode p s v = some bs) {n : Nat} (hn : readBudget c v ≤ n) {rest : Bytes} {dst g : GoVal} {r : Bytes}
    (h : read env n c (bs ++ rest) dst = .ok (g, r)) : r = rest := by
  have := (read_delivers env hcf he hn rest 0 dst).done
  rw [h] at this; exact this

theorem read_exact {c : Codec} {s : ASchema} {p : Plan} {v : Value} {bs : Bytes} (hcf : CodecFor c s)
    (he : encode p s v = some bs) {n : Nat} (hn : readBudget c v ≤ n) (rest : Bytes) {m : Nat} {dst g : GoVal}
    (hf : ofAvro env m c v dst = .ok g) :
    read env n c (bs ++ rest) dst = .ok (g, rest) := by
  have h := read_delivers env hcf he hn rest m dst
  rw [hf] at h; exact h

/-- a datum that does not fit (integer out of the Go type's range, unparsable timestamp) is an error -/
theorem read_misfit {c : Codec} {s : ASchema} {p : Plan} {v : Value} {bs : Bytes} (hcf : CodecFor c s)
    (he : encode p s v = some bs) {n : Nat} (hn : readBudget c v ≤ n) (rest : Bytes) {m : Nat} {dst : GoVal}
    (hf : ofAvro env m c v dst = .misfit) :
    read env n c (bs ++ rest) dst = .err := by
  have h := read_delivers env hcf he hn rest m dst
  rw [hf] at h; exact h

theorem read_budget_spec {c : Codec} {s : ASchema} {p : Plan} {v : Value} {bs : Bytes} (hcf : CodecFor c s)
    (he : encode p s v = some bs) {n : Nat} (hn : readBudget c v ≤ n) (rest : Bytes) (m : Nat) (dst : GoVal) :
    ReadExact (read env n c (bs ++ rest) dst) (ofAvro env m c v dst) rest :=
  (read_delivers env hcf he hn rest m dst).readExact

theorem read_exact_list {c : Codec} {s : ASchema} {vs : List Value} {N : Nat} (hN : readBudgetList c vs ≤ N)
    {p : Plan} {v : Value} {bs : Bytes} (hv : v ∈ vs) (hcf : CodecFor c s) (he : encode p s v = some bs)
    (rest : Bytes) {m : Nat} {dst g : GoVal} (hf : ofAvro env m c v dst = .ok g) :
    read env N c (bs ++ rest) dst = .ok (g, rest) :=
  read_exact env hcf he (Nat.le_trans (readBudget_le_list hv) hN) rest hf

/-! Non-vacuity: a two-block array of longs (first block size-prefixed) in a nullable union, read into
an empty slice with the budget `readBudget = 14`, whatever follows; and the same bytes skipped. -/
theorem exUnionArray_encode :
    encode (.node [] [.node [(1, true), (2, false)] [.leaf, .leaf, .leaf]])
      (.union [.array .long, .null]) (.union 0 (.array [.int 1, .int (-1), .int 64])) =
      some [0, 1, 2, 2, 4, 1, 0x80, 0x01, 0] := by
  decide +kernel
theorem exUnionArray_budget :
    readBudget (.unionOne (.array (.int 64 false) false) 0) (.union 0 (.array [.int 1, .int (-1), .int 64])) = 14 := by
  decide

example : readBudget (.unionOne (.array (.int 64 false) false) 0) (.union 0 (.array [.int 1, .int (-1), .int 64])) = 14 :=
  exUnionArray_budget

example (rest : Bytes) :
    read env 14 (.unionOne (.array (.int 64 false) false) 0) ([0, 1, 2, 2, 4, 1, 0x80, 0x01, 0] ++ rest) (.slice []) =
      .ok (.slice [.int 1, .int (-1), .int 64], rest) :=
  read_exact env (s := .union [.array .long, .null]) (v := .union 0 (.array [.int 1, .int (-1), .int 64]))
    (p := .node [] [.node [(1, true), (2, false)] [.leaf, .leaf, .leaf]])
    (.unionOne0 (.array .intL)) exUnionArray_encode
    (Nat.le_of_eq exUnionArray_budget) rest (m := 4)
    rfl

example (rest : Bytes) :
    skip env 14 (.unionOne (.array (.int 64 false) false) 0) ([0, 1, 2, 2, 4, 1, 0x80, 0x01, 0] ++ rest) = .ok rest :=
  skip_budget env (s := .union [.array .long, .null]) (v := .union 0 (.array [.int 1, .int (-1), .int 64]))
    (p := .node [] [.node [(1, true), (2, false)] [.leaf, .leaf, .leaf]])
    (.unionOne0 (.array .intL)) exUnionArray_encode
    (Nat.le_of_eq exUnionArray_budget) rest

end Avro
