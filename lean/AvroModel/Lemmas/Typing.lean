import AvroModel.Typing
import AvroModel.Lemmas.ReadLaws
import AvroModel.Lemmas.BuildSteps
import AvroModel.Lemmas.Bytes
/-!
Lemmas behind `Props/C05.lean`: zero values are well-typed; codec construction yields `wt` codecs (`buildWtAt`,
induction on the recursion budget, each builder taken apart by its inversion in `Lemmas/BuildKind.lean`); what
`wt c T` says about `T`, codec by codec; `wt` codecs never get stuck and preserve the type of the destination
(`soundAt`, induction on the step budget over the six mutually recursive read functions).
-/
namespace Avro

theorem zeroVal_slice (e : GoType) : zeroVal (.slice e) = if isU8 e then .bytes [] else .slice [] := by
  unfold zeroVal
  split <;> simp_all [isU8]

theorem zeroVal_array (n : Nat) (e : GoType) :
    zeroVal (.array n e) = if isU8 e then .fixed (List.replicate n 0) else .unit := by
  unfold zeroVal
  split <;> simp_all [isU8]

mutual
theorem zeroVal_hasTy : (t : GoType) → hasTy t (zeroVal t) = true
  | .bool | .float32 | .float64 | .complex | .string | .map _ _ | .ptr _ | .time | .iface | .chan | .func
  | .unsafeptr | .ref _ => by simp [zeroVal, hasTy]
  | .int w => by simp [zeroVal, hasTy, inRange_zero]
  | .uint w => by
    have : (0 : Int) < 2 ^ w := Int.pow_pos (by decide)
    simp [zeroVal, hasTy, this]
  | .slice e => by
    rw [zeroVal_slice]
    cases h : isU8 e <;> simp [hasTy, h]
  | .array n e => by
    rw [zeroVal_array]
    cases h : isU8 e <;> simp [hasTy, h]
  | .struct _ _ fs => by simp [zeroVal, hasTy, zeroFields_hasTy fs]
  | .nullT k => by cases k <;> simp [zeroVal, hasTy, nullInnerOK, inRange_zero]
  | .custom _ u => by simp [zeroVal, hasTy, zeroVal_hasTy u]
theorem zeroFields_hasTy : (fs : List GoField) → hasTyFields fs (zeroFields fs) = true
  | [] => by simp [zeroFields, hasTyFields]
  | .mk _ _ _ _ t :: fs => by simp [zeroFields, hasTyFields, zeroVal_hasTy t, zeroFields_hasTy fs]
end

theorem strip_ne_custom {T : GoType} (h : T.wf = true) (id : Nat) (u : GoType) : T.strip ≠ .custom id u := by
  cases T <;> simp [GoType.strip]
  rename_i id' u'
  simp only [GoType.wf, Bool.and_eq_true] at h
  intro hu; subst hu; simp at h

theorem strip_wf {T : GoType} (h : T.wf = true) : T.strip.wf = true := by
  cases T <;> simp_all [GoType.strip, GoType.wf]

structure BuildWtAt (reg : Reg) (n : Nat) : Prop where
  build : ∀ s T oe c, buildCodec reg n s (some T) oe = .ok c → T.wf = true → allocOK c = true → wt c T = true
  kind : ∀ s T oe c, buildKind reg n s (some T) oe = .ok c → T.wf = true →
    (s.type = "union" ∨ s.type = "null" ∨ libType T = false) → allocOK c = true → wt c T = true
  union : ∀ bs T oe c, buildUnion reg n bs (some T) oe = .ok c → T.wf = true → allocOK c = true → wt c T = true
  branches : ∀ bs T oe cs, buildBranches reg n bs (some T) oe = .ok cs → T.wf = true → allocOKAll cs = true → wtAll cs T = true
  fields : ∀ sfs gfs cs ts, buildFields reg n sfs (some gfs) = .ok (cs, ts) → wfFields gfs = true →
    allocOKFields cs ts = true → wtFields cs ts gfs = true

structure NoAllocAt (reg : Reg) (n : Nat) : Prop where
  build : ∀ s T oe c w, buildCodec reg n s (some T) oe = .ok c → T.strip = .uint w → allocs c = false
  kind : ∀ s T oe c w, buildKind reg n s (some T) oe = .ok c → T.strip = .uint w → allocs c = false
  union : ∀ bs T oe c w, buildUnion reg n bs (some T) oe = .ok c → T.strip = .uint w → allocs c = false
  branches : ∀ bs T oe cs w, buildBranches reg n bs (some T) oe = .ok cs → T.strip = .uint w → allocsU cs = false

theorem noAlloc_kind (reg : Reg) (n : Nat) (ih : NoAllocAt reg n) :
    ∀ s T oe c w, buildKind reg (n + 1) s (some T) oe = .ok c → T.strip = .uint w → allocs c = false := by
  intro s T oe c w hb hk
  -- no arm but `null` and `union` accepts an unsigned kind
  cases buildKind_inv hb with
  | null => rfl
  | union _ h => exact ih.union _ _ _ _ _ h hk
  | long _ h => simp [hk, buildLong] at h
  | boolean _ hT | float _ hT | double _ hT | bytes _ hT | string _ hT => simp [hk] at hT
  | fixed _ _ hT => simp [hk] at hT
  | f32double _ hT | record _ _ hT | recordLib _ _ hT | array _ _ hT | map _ _ hT => simp [hk] at hT

theorem allocsU_cons_false {c : Codec} {cs : List Codec} (h1 : allocs c = false) (h2 : allocsU cs = false) :
    allocsU (c :: cs) = false := by
  cases c <;> simp_all [allocsU]

theorem noAlloc_build (reg : Reg) (hreg : ∀ id, reg.custom id = none) (n : Nat) (ih : NoAllocAt reg n) :
    ∀ s T oe c w, buildCodec reg (n + 1) s (some T) oe = .ok c → T.strip = .uint w → allocs c = false := by
  intro s T oe c w hb hk
  cases buildCodec_inv hb with
  | pointer => simp [GoType.strip] at hk
  | registered hl => rcases regLookup_noCustom hreg hl with ⟨rfl, _⟩ | ⟨k, rfl, _⟩ <;> simp [GoType.strip] at hk
  | kind h => exact ih.kind _ _ _ _ _ h hk

theorem noAlloc_union (reg : Reg) (n : Nat) (ih : NoAllocAt reg n) :
    ∀ bs T oe c w, buildUnion reg (n + 1) bs (some T) oe = .ok c → T.strip = .uint w → allocs c = false := by
  intro bs T oe c w hb hk
  cases buildUnion_inv hb with
  | nullString _ h => simpa [allocs] using ih.build _ _ _ _ _ h hk
  | one _ h => simpa [allocs] using ih.build _ _ _ _ _ h hk
  | general h => exact ih.branches _ _ _ _ _ h hk

theorem noAlloc_branches (reg : Reg) (n : Nat) (ih : NoAllocAt reg n) :
    ∀ bs T oe cs w, buildBranches reg (n + 1) bs (some T) oe = .ok cs → T.strip = .uint w → allocsU cs = false := by
  intro bs T oe cs w hb hk
  rcases buildBranches_inv hb with ⟨rfl, rfl⟩ | ⟨b, bs, c', cs', rfl, rfl, hb1, hb2⟩
  · rfl
  · exact allocsU_cons_false (ih.build _ _ _ _ _ hb1 hk) (ih.branches _ _ _ _ _ hb2 hk)

theorem noAllocAt (reg : Reg) (hreg : ∀ id, reg.custom id = none) : ∀ n, NoAllocAt reg n := by
  intro n
  induction n with
  | zero => exact ⟨nofun, nofun, nofun, nofun⟩
  | succ n ih =>
    exact ⟨noAlloc_build reg hreg n ih, noAlloc_kind reg n ih, noAlloc_union reg n ih, noAlloc_branches reg n ih⟩

theorem isU8_iff {e : GoType} : isU8 e = true ↔ e = .uint 8 := by
  constructor
  · intro h; unfold isU8 at h; split at h <;> simp_all
  · intro h; subst h; rfl

theorem buildWt_kind (reg : Reg) (hreg : ∀ id, reg.custom id = none) (n : Nat) (ih : BuildWtAt reg n) :
    ∀ s T oe c, buildKind reg (n + 1) s (some T) oe = .ok c → T.wf = true →
    (s.type = "union" ∨ s.type = "null" ∨ libType T = false) → allocOK c = true → wt c T = true := by
  intro s T oe c hb hwf hlt hal
  have hswf := strip_wf hwf
  cases buildKind_inv hb with
  | null => rfl
  | long _ h =>
    obtain ⟨w, rfl, -, hk⟩ := buildLong_inv h
    rcases hk _ rfl with hT | ⟨id, hT⟩
    · simp [wt, hT]
    · exact absurd hT (strip_ne_custom hwf _ _)
  | union _ h => exact ih.union _ _ _ _ h hwf hal
  | boolean _ hT | float _ hT | double _ hT | string _ hT => simp [wt, hT _ rfl]
  | f32double _ hT => simp [wt, hT]
  | bytes _ hT => simp [wt, hT _ rfl, isU8]
  | fixed _ _ hT =>
    obtain ⟨m, hT, hsz⟩ := hT _ rfl
    simp [wt, hT, isU8, hsz]
  | record _ _ hT hbf =>
    simp only [hT, GoType.wf] at hswf
    simp [wt, hT, zeroFields_hasTy, ih.fields _ _ _ _ hbf hswf hal]
  | recordLib hs _ hT =>
    -- a registered library type reaches `buildKind` only under a union or null schema
    have : libType T = true := by rcases hT with h | ⟨k, h⟩ <;> simp [libType, h]
    simp [hs, this] at hlt
  | @array o _ e ci _ _ hT hbi =>
    simp only [allocOK, Bool.and_eq_true] at hal
    simp only [hT, GoType.wf] at hswf
    -- `[]byte` under an array schema: its item codec cannot allocate, which `allocOK` excludes
    have hne : isU8 e = false := by
      cases hu : isU8 e
      · rfl
      · have := (noAllocAt reg hreg n).build _ _ _ _ 8 hbi (by rw [isU8_iff.mp hu]; rfl)
        rw [this] at hal; exact absurd hal.1 (by decide)
    simp [wt, hT, hne, ih.build _ _ _ _ hbi hswf hal.2]
  | map _ _ hT hkey hbi =>
    simp only [allocOK, Bool.and_eq_true] at hal
    simp only [hT, GoType.wf, Bool.and_eq_true] at hswf
    simp [wt, hT, isStringKey, hkey, ih.build _ _ _ _ hbi hswf.2 hal.2]

theorem buildTime_wt {s : Schema} {c : Codec} (h : buildTime s = .ok c) : wt c .time = true := by
  rcases buildTime_inv h with ⟨-, rfl⟩ | ⟨-, m, rfl⟩ | ⟨-, rfl⟩ <;> rfl

theorem buildNull_wt {k : NullKind} {s : Schema} {c : Codec} (h : buildNull k s = .ok c) : wt c (.nullT k) = true := by
  rcases buildNull_inv h with ⟨rfl, -, rfl⟩ | ⟨rfl, -, rfl⟩ | ⟨rfl | rfl, -, rfl⟩ | ⟨rfl | rfl, -, rfl⟩ |
    ⟨rfl, -, rfl⟩ | ⟨rfl, -, rfl⟩ <;> rfl

theorem libType_false {reg : Reg} (hlib : reg.lib = true) {T : GoType} (hwf : T.wf = true)
    (hl : regLookup reg T = none) : libType T = false := by
  cases T <;> simp_all [libType, GoType.strip, regLookup]
  rename_i id u
  simp only [GoType.wf, Bool.and_eq_true] at hwf
  cases u <;> simp_all

theorem buildWt_build (reg : Reg) (hreg : ∀ id, reg.custom id = none) (hlib : reg.lib = true) (n : Nat)
    (ih : BuildWtAt reg n) :
    ∀ s T oe c, buildCodec reg (n + 1) s (some T) oe = .ok c → T.wf = true → allocOK c = true → wt c T = true := by
  intro s T oe c hb hwf hal
  cases buildCodec_inv hb with
  | pointer h =>
    simp only [allocOK, Bool.and_eq_true] at hal
    simp only [GoType.wf] at hwf
    simp [wt, GoType.strip, ih.build _ _ _ _ h hwf hal.2]
  | registered hl h =>
    rcases regLookup_noCustom hreg hl with ⟨rfl, rfl⟩ | ⟨k, rfl, rfl⟩
    · exact buildTime_wt h
    · exact buildNull_wt h
  | kind h hs => exact ih.kind _ _ _ _ h hwf ((hs T rfl).imp_right (.imp_right (libType_false hlib hwf))) hal

theorem buildWt_union (reg : Reg) (n : Nat) (ih : BuildWtAt reg n) :
    ∀ bs T oe c, buildUnion reg (n + 1) bs (some T) oe = .ok c → T.wf = true → allocOK c = true → wt c T = true := by
  intro bs T oe c hb hwf hal
  cases buildUnion_inv hb with
  | nullString _ h => simpa [wt] using ih.build _ _ _ _ h hwf rfl
  | one _ h => simpa [wt] using ih.build _ _ _ _ h hwf hal
  | general h => exact ih.branches _ _ _ _ h hwf hal

theorem buildWt_branches (reg : Reg) (n : Nat) (ih : BuildWtAt reg n) :
    ∀ bs T oe cs, buildBranches reg (n + 1) bs (some T) oe = .ok cs → T.wf = true → allocOKAll cs = true →
    wtAll cs T = true := by
  intro bs T oe cs hb hwf hal
  rcases buildBranches_inv hb with ⟨rfl, rfl⟩ | ⟨b, bs, c', cs', rfl, rfl, hb1, hb2⟩
  · rfl
  · simp only [allocOKAll, Bool.and_eq_true] at hal
    simp [wtAll, ih.build _ _ _ _ hb1 hwf hal.1, ih.branches _ _ _ _ hb2 hwf hal.2]

theorem wfFields_get {fs : List GoField} (h : wfFields fs = true) {j : Nat} {gf : GoField} (hj : fs[j]? = some gf) :
    gf.type.wf = true := by
  induction fs generalizing j with
  | nil => simp at hj
  | cons f fs ih =>
    obtain ⟨a, b, c, d, t⟩ := f
    simp only [wfFields, Bool.and_eq_true] at h
    cases j with
    | zero => simp at hj; subst hj; exact h.1
    | succ j => simp at hj; exact ih h.2 hj

theorem buildWt_fields (reg : Reg) (n : Nat) (ih : BuildWtAt reg n) :
    ∀ sfs gfs cs ts, buildFields reg (n + 1) sfs (some gfs) = .ok (cs, ts) → wfFields gfs = true →
    allocOKFields cs ts = true → wtFields cs ts gfs = true := by
  intro sfs gfs cs ts hb hwf hal
  cases sfs with
  | nil => simp [buildFields] at hb; obtain ⟨rfl, rfl⟩ := hb; rfl
  | cons sf sfs =>
    obtain ⟨m, c', cs', ts', hm, hb1, hb2, rfl, rfl⟩ := buildFields_cons_ok.mp hb
    cases hm
    simp only [fieldBuild, fieldFound] at hb1 hal ⊢
    cases hf : lookupField sf.name gfs 0 none with
    | none =>
      simp only [hf, Option.map, allocOKFields] at hal ⊢
      simp only [wtFields]
      exact ih.fields _ _ _ _ hb2 hwf hal
    | some p =>
      obtain ⟨j, gf⟩ := p
      simp only [hf, Option.map, allocOKFields, Bool.and_eq_true] at hal hb1 ⊢
      have hj := lookupField_get hf
      simp only [wtFields, hj, Bool.and_eq_true]
      exact ⟨ih.build _ _ _ _ hb1 (wfFields_get hwf hj) hal.1, ih.fields _ _ _ _ hb2 hwf hal.2⟩

theorem buildWtAt (reg : Reg) (hreg : ∀ id, reg.custom id = none) (hlib : reg.lib = true) : ∀ n, BuildWtAt reg n := by
  intro n
  induction n with
  | zero => exact ⟨nofun, nofun, nofun, nofun, nofun⟩
  | succ n ih =>
    exact ⟨buildWt_build reg hreg hlib n ih, buildWt_kind reg hreg n ih, buildWt_union reg n ih,
      buildWt_branches reg n ih, buildWt_fields reg n ih⟩

/-- a partial-correctness judgement for one decoding step: `o` is not a store through a pointer of the wrong
shape (`stuck`), and a result, if there is one, satisfies `P`.  (`Avro.Time.Safe P x` is another notion: no panic,
predicate first.) -/
def Safe {α : Type} (o : Outcome α) (P : α → Prop) : Prop := o ≠ .stuck ∧ ∀ a, o = .ok a → P a

theorem Safe.ok {α : Type} {a : α} {P : α → Prop} (h : P a) : Safe (.ok a) P :=
  ⟨by simp, fun b hb => by cases hb; exact h⟩
theorem Safe.err {α : Type} {P : α → Prop} : Safe (.err : Outcome α) P := ⟨by simp, fun _ h => by cases h⟩
theorem Safe.panic {α : Type} {P : α → Prop} : Safe (.panic : Outcome α) P := ⟨by simp, fun _ h => by cases h⟩
theorem Safe.fuel {α : Type} {P : α → Prop} : Safe (.fuel : Outcome α) P := ⟨by simp, fun _ h => by cases h⟩

theorem Safe.bind_ne {α β : Type} {o : Outcome α} {f : α → Outcome β} {P : β → Prop}
    (h1 : o ≠ .stuck) (h2 : ∀ a, o = .ok a → Safe (f a) P) : Safe (Outcome.bind o f) P := by
  cases o with
  | ok a => exact h2 a rfl
  | stuck => exact absurd rfl h1
  | err => exact Safe.err
  | panic => exact Safe.panic
  | fuel => exact Safe.fuel

theorem Safe.bind {α β : Type} {o : Outcome α} {f : α → Outcome β} {Q : α → Prop} {P : β → Prop}
    (h1 : Safe o Q) (h2 : ∀ a, Q a → Safe (f a) P) : Safe (Outcome.bind o f) P :=
  Safe.bind_ne h1.1 fun a ha => h2 a (h1.2 a ha)

theorem Safe.mono {α : Type} {o : Outcome α} {P Q : α → Prop} (h : Safe o P) (hpq : ∀ a, P a → Q a) : Safe o Q :=
  ⟨h.1, fun a ha => hpq a (h.2 a ha)⟩

theorem next_safe (l : Int) (bs : Bytes) : Safe (next l bs) (fun p => (p.1.length : Int) = l) := by
  refine ⟨(next_okOrErr l bs).ne_stuck, fun p hp => ?_⟩
  obtain ⟨_, _, rfl⟩ := next_eq_ok hp
  simp only [List.length_take]; omega

theorem rdInt_safe (w : Nat) (bs : Bytes) : Safe (rdInt w bs) (fun p => inRange w p.1) :=
  ⟨(rdInt_okOrErr w bs).ne_stuck, fun _ hp => (rdInt_eq_ok hp).2⟩

theorem hasTy_of_strip {T K : GoType} (h : T.strip = K) (v : GoVal) : hasTy T v = hasTy K v := by
  subst h; cases T <;> rfl

theorem hasTyFields_get {fs : List GoField} {vals : List GoVal} (h : hasTyFields fs vals = true) {i : Nat} {f : GoField}
    (hf : fs[i]? = some f) : ∃ cur, vals[i]? = some cur ∧ hasTy f.type cur = true := by
  induction fs generalizing vals i with
  | nil => simp at hf
  | cons g fs ih =>
    obtain ⟨a, b, c, d, t⟩ := g
    cases vals with
    | nil => simp [hasTyFields] at h
    | cons v vals =>
      simp only [hasTyFields, Bool.and_eq_true] at h
      cases i with
      | zero => simp at hf; subst hf; exact ⟨v, by simp, h.1⟩
      | succ i => simp at hf; simpa using ih h.2 hf

theorem hasTyFields_set {fs : List GoField} {vals : List GoVal} (h : hasTyFields fs vals = true) {i : Nat} {f : GoField}
    (hf : fs[i]? = some f) {v : GoVal} (hv : hasTy f.type v = true) : hasTyFields fs (listSet vals i v) = true := by
  induction fs generalizing vals i with
  | nil => simp at hf
  | cons g fs ih =>
    obtain ⟨a, b, c, d, t⟩ := g
    cases vals with
    | nil => simp [hasTyFields] at h
    | cons w vals =>
      simp only [hasTyFields, Bool.and_eq_true] at h
      cases i with
      | zero => simp at hf; subst hf; simp [listSet, hasTyFields, h.2]; exact hv
      | succ i => simp at hf; simp [listSet, hasTyFields, h.1, ih h.2 hf]

theorem mapAssign_spec (p : GoVal → Bool) (k : Bytes) (v : GoVal) (hv : p v = true) :
    ∀ (ks : List Bytes) (vs : List GoVal), ks.length = vs.length → vs.all p = true →
    (mapAssign k v ks vs).1.length = (mapAssign k v ks vs).2.length ∧ (mapAssign k v ks vs).2.all p = true := by
  intro ks
  induction ks with
  | nil => intro vs hl ha; simp [mapAssign, hv]
  | cons k' ks ih =>
    intro vs hl ha
    cases vs with
    | nil => simp at hl
    | cons v' vs =>
      simp only [List.length_cons, Nat.add_right_cancel_iff] at hl
      simp only [List.all_cons, Bool.and_eq_true] at ha
      simp only [mapAssign]
      split
      · simp [hl, hv, ha.2]
      · have := ih vs hl ha.2
        simp [this.1, this.2, ha.1]

theorem wtAll_eq_all (cs : List Codec) (T : GoType) : wtAll cs T = cs.all (wt · T) := by
  induction cs <;> simp [wtAll, *]

theorem allocOKAll_eq_all (cs : List Codec) : allocOKAll cs = cs.all allocOK := by
  induction cs <;> simp [allocOKAll, *]

def leafKind : Codec → Option GoType
  | .bool _ => some .bool
  | .int w _ => some (.int w)
  | .float _ | .f32double _ => some .float32
  | .double _ => some .float64
  | .bytes _ => some (.slice (.uint 8))
  | .string _ | .unionNullString _ _ => some .string
  | .timeString | .timeLong _ | .date => some .time
  | _ => none

theorem wt_leaf {c : Codec} {T K : GoType} (hk : leafKind c = some K) (h : wt c T = true) : T.strip = K := by
  cases c <;> simp only [leafKind, Option.some.injEq, reduceCtorEq] at hk <;> subst hk <;>
    (simp only [wt] at h; split at h <;> simp_all [isU8_iff])

section wtInv
variable {T : GoType} {o : Bool}

theorem wt_fixed {n : Int} (h : wt (.fixed n) T = true) : ∃ m : Nat, T.strip = .array m (.uint 8) ∧ (m : Int) = n := by
  simp only [wt] at h; split at h <;> simp_all [isU8_iff]
theorem wt_array {item : Codec} (h : wt (.array item o) T = true) :
    ∃ e, T.strip = .slice e ∧ isU8 e = false ∧ wt item e = true := by
  simp only [wt] at h; split at h <;> simp_all
theorem wt_map {val : Codec} (h : wt (.map val o) T = true) :
    ∃ k e, T.strip = .map k e ∧ isStringKey k = true ∧ wt val e = true := by
  simp only [wt] at h; split at h
  · exact ⟨_, _, ‹_›, by simpa using h⟩
  · cases h
theorem wt_pointer {c : Codec} (h : wt (.pointer c) T = true) : ∃ e, T.strip = .ptr e ∧ wt c e = true := by
  simp only [wt] at h; split at h <;> simp_all
theorem wt_record {z : List GoVal} {cs : List Codec} {ts : List (Option Nat)} (h : wt (.record z cs ts) T = true) :
    ∃ nm pk fs, T.strip = .struct nm pk fs ∧ hasTyFields fs z = true ∧ wtFields cs ts fs = true := by
  simp only [wt] at h; split at h
  · exact ⟨_, _, _, ‹_›, by simpa using h⟩
  · cases h
theorem wt_nullw {k : NullKind} (h : wt (.nullw k) T = true) :
    ∃ k', T.strip = .nullT k' ∧ (k' = k ∨ (k = .float ∧ k' = .double) ∨ (k = .double ∧ k' = .float)) := by
  simp only [wt] at h; split at h
  · rename_i k' hT; exact ⟨k', hT, by revert h; cases k <;> cases k' <;> decide⟩
  · cases h

end wtInv

mutual
theorem wt_zero (env : Env) : (c : Codec) → (T : GoType) → wt c T = true → allocs c = true →
    hasTy T (Codec.zero env c) = true
  | .null, _, _, ha => by simp [allocs] at ha
  | .bool _, T, hw, _ | .float _, T, hw, _ | .double _, T, hw, _ | .f32double _, T, hw, _ | .bytes _, T, hw, _
  | .string _, T, hw, _ | .unionNullString _ _, T, hw, _ | .timeString, T, hw, _ | .timeLong _, T, hw, _
  | .date, T, hw, _ => by rw [hasTy_of_strip (wt_leaf rfl hw)]; rfl
  | .int w _, T, hw, _ => by rw [hasTy_of_strip (wt_leaf rfl hw)]; simp [Codec.zero, hasTy, inRange_zero]
  | .fixed n, T, hw, _ => by
    obtain ⟨m, h, rfl⟩ := wt_fixed hw
    rw [hasTy_of_strip h]; simp [Codec.zero, hasTy, isU8]
  | .array _ _, T, hw, _ => by
    obtain ⟨e, h, hu, -⟩ := wt_array hw
    rw [hasTy_of_strip h]; simp [Codec.zero, hasTy, hu]
  | .map _ _, T, hw, _ => by
    obtain ⟨k, e, h, -⟩ := wt_map hw
    rw [hasTy_of_strip h]; simp [Codec.zero, hasTy]
  | .pointer _, T, hw, _ => by
    obtain ⟨e, h, -⟩ := wt_pointer hw
    rw [hasTy_of_strip h]; rfl
  | .record z _ _, T, hw, _ => by
    obtain ⟨nm, pk, fs, h, hz, -⟩ := wt_record hw
    rw [hasTy_of_strip h]; exact hz
  | .union cs, T, hw, ha => wtAll_zeroU env cs T hw ha
  | .unionOne c _, T, hw, ha => wt_zero env c T hw ha
  | .nullw k, T, hw, _ => by
    obtain ⟨k', h, rfl | ⟨rfl, rfl⟩ | ⟨rfl, rfl⟩⟩ := wt_nullw hw <;> rw [hasTy_of_strip h]
    · cases k' <;> simp [Codec.zero, hasTy, nullInnerOK, inRange_zero]
    · rfl
    · rfl
  | .custom _, _, hw, _ => by simp [wt] at hw
theorem wtAll_zeroU (env : Env) : (cs : List Codec) → (T : GoType) → wtAll cs T = true → allocsU cs = true →
    hasTy T (zeroUnion env cs) = true
  | [], _, _, ha => by simp [allocsU] at ha
  | c :: cs, T, hw, ha => by
    simp only [wtAll, Bool.and_eq_true] at hw
    cases c
    case null => simp only [allocsU] at ha; simp only [zeroUnion]; exact wtAll_zeroU env cs T hw.2 ha
    all_goals (simp only [allocsU] at ha; simp only [zeroUnion]; exact wt_zero env _ T hw.1 ha)
end

/-- the conversion `null.Float`'s codec applies after reading a float32 -/
def nullPost (env : Env) (k : NullKind) (v : GoVal) : GoVal :=
  match k, v with
  | .float, .f32 b => .f64 (env.widen b)
  | _, x => x

theorem nullInner_safe (env : Env) (k k' : NullKind) (hk : k' = k ∨ (k = .float ∧ k' = .double) ∨ (k = .double ∧ k' = .float))
    (n : Nat) (bs : Bytes) (inner : GoVal) (hi : nullInnerOK k' inner = true) :
    Safe (read env n (nullInner k) bs inner) (fun p => nullInnerOK k' (nullPost env k p.1) = true) := by
  have L := neverStuck_law env
  cases n with
  | zero => simp only [read]; exact Safe.fuel
  | succ n =>
    rcases hk with rfl | ⟨rfl, rfl⟩ | ⟨rfl, rfl⟩
    case' inl => cases k'
    all_goals simp only [nullInner, read, Outcome.bind_eq, Outcome.pure_eq]
    · exact Safe.bind (rdInt_safe 64 bs) (fun a ha => Safe.ok (by simpa [nullPost, nullInnerOK] using ha))
    · exact Safe.bind_ne (L.rdByte bs) (fun a _ => Safe.ok (by simp [nullPost, nullInnerOK]))
    · exact Safe.bind (next_safe 8 bs) (fun a _ => Safe.ok (by simp [nullPost, nullInnerOK]))
    · exact Safe.bind (next_safe 4 bs) (fun a _ => Safe.ok (by simp [nullPost, nullInnerOK]))
    · refine Safe.bind_ne (L.rdVarint bs) (fun a _ => ?_)
      split
      · exact Safe.err
      · exact Safe.bind (next_safe _ _) (fun b _ => Safe.ok (by simp [nullPost, nullInnerOK]))
    · refine Safe.bind_ne (L.rdVarint bs) (fun a _ => ?_)
      split
      · exact Safe.ok (by simpa [nullPost] using hi)
      · refine Safe.bind (next_safe _ _) (fun b _ => ?_)
        split
        · exact Safe.ok (by simp [nullPost, nullInnerOK])
        · exact Safe.err
    · exact Safe.bind (next_safe 4 bs) (fun a _ => Safe.ok (by simp [nullPost, nullInnerOK]))
    · exact Safe.bind (next_safe 8 bs) (fun a _ => Safe.ok (by simp [nullPost, nullInnerOK]))

structure SoundAt (env : Env) (n : Nat) : Prop where
  read : ∀ c T bs dst, wt c T = true → allocOK c = true → hasTy T dst = true →
    Safe (read env n c bs dst) (fun p => hasTy T p.1 = true)
  readFields : ∀ cs ts fs bs vals, wtFields cs ts fs = true → allocOKFields cs ts = true → hasTyFields fs vals = true →
    Safe (readFields env n cs ts bs vals) (fun p => hasTyFields fs p.1 = true)
  readArrayBlocks : ∀ item e bs acc, wt item e = true → allocs item = true → allocOK item = true →
    acc.all (hasTy e) = true → Safe (readArrayBlocks env n item bs acc) (fun p => p.1.all (hasTy e) = true)
  readItems : ∀ item e k bs acc, wt item e = true → allocs item = true → allocOK item = true →
    acc.all (hasTy e) = true → Safe (readItems env n item k bs acc) (fun p => p.1.all (hasTy e) = true)
  readMapBlocks : ∀ val e bs ks vs, wt val e = true → allocs val = true → allocOK val = true →
    ks.length = vs.length → vs.all (hasTy e) = true →
    Safe (readMapBlocks env n val bs ks vs) (fun p => p.1.1.length = p.1.2.length ∧ p.1.2.all (hasTy e) = true)
  readMapItems : ∀ val e k bs ks vs, wt val e = true → allocs val = true → allocOK val = true →
    ks.length = vs.length → vs.all (hasTy e) = true →
    Safe (readMapItems env n val k bs ks vs) (fun p => p.1.1.length = p.1.2.length ∧ p.1.2.all (hasTy e) = true)

theorem sound_read (env : Env) (n : Nat) (ih : SoundAt env n) :
    ∀ c T bs dst, wt c T = true → allocOK c = true → hasTy T dst = true →
    Safe (Avro.read env (n + 1) c bs dst) (fun p => hasTy T p.1 = true) := by
  intro c T bs dst hw hal hd
  have L := neverStuck_law env
  cases c <;> simp only [Avro.read, Outcome.bind_eq, Outcome.pure_eq]
  case null => exact Safe.ok hd
  case bool o =>
    exact Safe.bind_ne (L.rdByte bs) (fun a _ => Safe.ok (by rw [hasTy_of_strip (wt_leaf rfl hw)]; simp [hasTy]))
  case int w o =>
    exact Safe.bind (rdInt_safe w bs) (fun a ha => Safe.ok (by rw [hasTy_of_strip (wt_leaf rfl hw)]; simpa [hasTy] using ha))
  case float | double | f32double =>
    exact Safe.bind (next_safe _ bs) (fun a _ => Safe.ok (by rw [hasTy_of_strip (wt_leaf rfl hw)]; simp [hasTy]))
  case bytes o =>
    refine Safe.bind_ne (L.rdVarint bs) (fun a _ => ?_)
    split
    · exact Safe.ok hd
    · exact Safe.bind (next_safe _ _) (fun b _ => Safe.ok (by rw [hasTy_of_strip (wt_leaf rfl hw)]; simp [hasTy, isU8]))
  case string o =>
    refine Safe.bind_ne (L.rdVarint bs) (fun a _ => ?_)
    split
    · exact Safe.err
    · exact Safe.bind (next_safe _ _) (fun b _ => Safe.ok (by rw [hasTy_of_strip (wt_leaf rfl hw)]; simp [hasTy]))
  case fixed k =>
    obtain ⟨m, h, hm⟩ := wt_fixed hw
    refine Safe.bind (next_safe k bs) (fun b hb => Safe.ok ?_)
    rw [hasTy_of_strip h]
    have : b.1.length = m := by omega
    simp [hasTy, isU8, this]
  case array item o =>
    obtain ⟨e, h, hu, hw⟩ := wt_array hw
    simp only [allocOK, Bool.and_eq_true] at hal
    rw [hasTy_of_strip h] at hd
    cases dst <;> simp only [hasTy, hu] at hd <;> try (cases hd; done)
    rename_i items
    simp only [Bool.not_false, Bool.true_and] at hd
    refine Safe.bind (ih.readArrayBlocks item e bs items hw hal.1 hal.2 hd) (fun a ha => Safe.ok ?_)
    rw [hasTy_of_strip h]; simp only [hasTy, hu]; simpa using ha
  case map val o =>
    obtain ⟨k, e, h, hk, hw⟩ := wt_map hw
    simp only [allocOK, Bool.and_eq_true] at hal
    rw [hasTy_of_strip h] at hd
    cases dst <;> simp only [hasTy] at hd <;> try (cases hd; done)
    rename_i nl ks vs
    simp only [Bool.and_eq_true, beq_iff_eq] at hd
    refine Safe.bind (ih.readMapBlocks val e bs ks vs hw hal.1 hal.2 hd.1.2 hd.2) (fun a ha => Safe.ok ?_)
    rw [hasTy_of_strip h]; simp only [hasTy, hk, Bool.true_or, Bool.true_and, Bool.and_eq_true, beq_iff_eq]
    exact ha
  case pointer c' =>
    obtain ⟨e, h, hw⟩ := wt_pointer hw
    simp only [allocOK, Bool.and_eq_true] at hal
    rw [hasTy_of_strip h] at hd
    cases dst <;> simp only [hasTy] at hd <;> try (cases hd; done)
    rename_i tgt
    cases tgt with
    | none =>
      refine Safe.bind (ih.read c' e bs _ hw hal.2 (wt_zero env c' e hw hal.1)) (fun a ha => Safe.ok ?_)
      rw [hasTy_of_strip h]; simpa [hasTy] using ha
    | some x =>
      refine Safe.bind (ih.read c' e bs x hw hal.2 hd) (fun a ha => Safe.ok ?_)
      rw [hasTy_of_strip h]; simpa [hasTy] using ha
  case record z cs ts =>
    obtain ⟨nm, pk, fs, h, -, hw⟩ := wt_record hw
    simp only [allocOK] at hal
    rw [hasTy_of_strip h] at hd
    cases dst <;> simp only [hasTy] at hd <;> try (cases hd; done)
    rename_i vals
    refine Safe.bind (ih.readFields cs ts fs bs vals hw hal hd) (fun a ha => Safe.ok ?_)
    rw [hasTy_of_strip h]; simpa [hasTy] using ha
  case union cs =>
    simp only [wt] at hw; simp only [allocOK] at hal
    refine Safe.bind_ne (L.rdVarint bs) (fun a _ => ?_)
    split
    · exact Safe.err
    · split
      · rename_i c' hc'
        have hm := List.mem_of_getElem? hc'
        rw [wtAll_eq_all] at hw; rw [allocOKAll_eq_all] at hal
        exact ih.read c' T _ dst (List.all_eq_true.mp hw c' hm) (List.all_eq_true.mp hal c' hm) hd
      · exact Safe.panic
  case unionOne c' nn =>
    simp only [wt] at hw; simp only [allocOK] at hal
    refine Safe.bind_ne (L.rdByte bs) (fun a _ => ?_)
    split
    · exact Safe.err
    · split
      · exact ih.read c' T _ dst hw hal hd
      · exact Safe.ok hd
  case unionNullString o nn =>
    refine Safe.bind_ne (L.rdByte bs) (fun a _ => ?_)
    split
    · exact Safe.err
    · split
      · exact ih.read (.string false) T _ dst (by simpa [wt] using hw) rfl hd
      · exact Safe.ok hd
  case timeString =>
    refine Safe.bind_ne (L.rdVarint bs) (fun a _ => ?_)
    split
    · exact Safe.ok hd
    · refine Safe.bind (next_safe _ _) (fun b _ => ?_)
      split
      · exact Safe.ok (by rw [hasTy_of_strip (wt_leaf rfl hw)]; simp [hasTy])
      · exact Safe.err
  case timeLong | date =>
    exact Safe.bind (rdInt_safe _ bs) (fun a _ => Safe.ok (by rw [hasTy_of_strip (wt_leaf rfl hw)]; simp [hasTy]))
  case nullw k =>
    obtain ⟨k', h, hw⟩ := wt_nullw hw
    rw [hasTy_of_strip h] at hd
    cases dst <;> simp only [hasTy] at hd <;> try (cases hd; done)
    rename_i valid inner
    refine Safe.bind (nullInner_safe env k k' hw n bs inner hd) (fun a ha => Safe.ok ?_)
    rw [hasTy_of_strip h]; simp only [hasTy]
    obtain ⟨v, r⟩ := a
    simp only [nullPost] at ha
    cases k <;> cases v <;> exact ha
  case custom id => simp [wt] at hw

theorem sound_readFields (env : Env) (n : Nat) (ih : SoundAt env n) :
    ∀ cs ts fs bs vals, wtFields cs ts fs = true → allocOKFields cs ts = true → hasTyFields fs vals = true →
    Safe (Avro.readFields env (n + 1) cs ts bs vals) (fun p => hasTyFields fs p.1 = true) := by
  intro cs ts fs bs vals hw hal hd
  cases cs with
  | nil => simp only [Avro.readFields]; exact Safe.ok hd
  | cons c cs =>
    cases ts with
    | nil => simp [wtFields] at hw
    | cons t ts =>
      cases t with
      | none =>
        simp only [wtFields] at hw; simp only [allocOKFields] at hal
        simp only [Avro.readFields, Outcome.bind_eq]
        refine Safe.bind_ne (skip_ne_stuck env n c bs) (fun r _ => ?_)
        exact ih.readFields cs ts fs r vals hw hal hd
      | some i =>
        simp only [wtFields, Bool.and_eq_true] at hw; simp only [allocOKFields, Bool.and_eq_true] at hal
        obtain ⟨hw1, hw2⟩ := hw
        split at hw1
        · rename_i f hf
          obtain ⟨cur, hcur, hct⟩ := hasTyFields_get hd hf
          simp only [Avro.readFields, hcur, Outcome.bind_eq]
          refine Safe.bind (ih.read c f.type bs cur hw1 hal.1 hct) (fun a ha => ?_)
          exact ih.readFields cs ts fs _ _ hw2 hal.2 (hasTyFields_set hd hf ha)
        · cases hw1

theorem sound_readItems (env : Env) (n : Nat) (ih : SoundAt env n) :
    ∀ item e k bs acc, wt item e = true → allocs item = true → allocOK item = true →
    acc.all (hasTy e) = true → Safe (Avro.readItems env (n + 1) item k bs acc) (fun p => p.1.all (hasTy e) = true) := by
  intro item e k bs acc hw ha hal hd
  cases k with
  | zero => simp only [Avro.readItems]; exact Safe.ok hd
  | succ k =>
    simp only [Avro.readItems, Outcome.bind_eq]
    refine Safe.bind (ih.read item e bs _ hw hal (wt_zero env item e hw ha)) (fun a hv => ?_)
    exact ih.readItems item e k _ _ hw ha hal (by simp [List.all_append, hd, hv])

theorem sound_readArrayBlocks (env : Env) (n : Nat) (ih : SoundAt env n) :
    ∀ item e bs acc, wt item e = true → allocs item = true → allocOK item = true →
    acc.all (hasTy e) = true → Safe (Avro.readArrayBlocks env (n + 1) item bs acc) (fun p => p.1.all (hasTy e) = true) := by
  intro item e bs acc hw ha hal hd
  have L := neverStuck_law env
  simp only [Avro.readArrayBlocks, Outcome.bind_eq, Outcome.pure_eq]
  refine Safe.bind_ne (L.rdVarint bs) (fun a _ => ?_)
  split
  · exact Safe.ok hd
  · refine Safe.bind_ne (L.arrayBlockCount _ _ _) (fun b _ => ?_)
    refine Safe.bind (ih.readItems item e _ _ acc hw ha hal hd) (fun c hc => ?_)
    exact ih.readArrayBlocks item e _ _ hw ha hal hc

theorem sound_readMapItems (env : Env) (n : Nat) (ih : SoundAt env n) :
    ∀ val e k bs ks vs, wt val e = true → allocs val = true → allocOK val = true →
    ks.length = vs.length → vs.all (hasTy e) = true →
    Safe (Avro.readMapItems env (n + 1) val k bs ks vs) (fun p => p.1.1.length = p.1.2.length ∧ p.1.2.all (hasTy e) = true) := by
  intro val e k bs ks vs hw ha hal hl hd
  have L := neverStuck_law env
  cases k with
  | zero => simp only [Avro.readMapItems]; exact Safe.ok ⟨hl, hd⟩
  | succ k =>
    simp only [Avro.readMapItems, Outcome.bind_eq]
    refine Safe.bind_ne (L.rdVarint bs) (fun a _ => ?_)
    split
    · exact Safe.err
    · refine Safe.bind (next_safe _ _) (fun b _ => ?_)
      refine Safe.bind (ih.read val e _ _ hw hal (wt_zero env val e hw ha)) (fun c hv => ?_)
      have := mapAssign_spec (hasTy e) b.1 c.1 hv ks vs hl hd
      exact ih.readMapItems val e k _ _ _ hw ha hal this.1 this.2

theorem sound_readMapBlocks (env : Env) (n : Nat) (ih : SoundAt env n) :
    ∀ val e bs ks vs, wt val e = true → allocs val = true → allocOK val = true →
    ks.length = vs.length → vs.all (hasTy e) = true →
    Safe (Avro.readMapBlocks env (n + 1) val bs ks vs) (fun p => p.1.1.length = p.1.2.length ∧ p.1.2.all (hasTy e) = true) := by
  intro val e bs ks vs hw ha hal hl hd
  have L := neverStuck_law env
  simp only [Avro.readMapBlocks, Outcome.bind_eq, Outcome.pure_eq]
  refine Safe.bind_ne (L.rdVarint bs) (fun a _ => ?_)
  split
  · exact Safe.ok ⟨hl, hd⟩
  · refine Safe.bind_ne (L.blockCount _ _) (fun b _ => ?_)
    refine Safe.bind (ih.readMapItems val e _ _ ks vs hw ha hal hl hd) (fun c hc => ?_)
    exact ih.readMapBlocks val e _ _ _ hw ha hal hc.1 hc.2

theorem soundAt (env : Env) : ∀ n, SoundAt env n := by
  intro n
  induction n with
  | zero =>
    constructor <;> intros <;>
      simp only [Avro.read, Avro.readFields, Avro.readArrayBlocks, Avro.readItems, Avro.readMapBlocks, Avro.readMapItems] <;>
      exact Safe.fuel
  | succ n ih =>
    exact ⟨sound_read env n ih, sound_readFields env n ih, sound_readArrayBlocks env n ih, sound_readItems env n ih,
      sound_readMapBlocks env n ih, sound_readMapItems env n ih⟩

end Avro
