import AvroModel.Lemmas.SchemaGen
/-!
Structural validity of generated schemas (C15): flat unions (`UnionsOk`), named records defined once
(`recordNames`), unique field names (`FieldsUnique`). Each is a predicate on schemas with one lemma per
schema former, and its invariant an instance of `gen_induct`.
-/
namespace Avro

mutual
/-- every union anywhere in the schema is `[null, X]` with `X` neither a union nor null -/
def Schema.UnionsOk : Schema → Prop
  | .mk t none u =>
    (t = "union" → ∃ x, u = [.prim "null", x] ∧ x.type ≠ "union" ∧ x.type ≠ "null") ∧ Schema.UnionsOkList u
  | .mk t (some ob) u =>
    (t = "union" → ∃ x, u = [.prim "null", x] ∧ x.type ≠ "union" ∧ x.type ≠ "null") ∧ Schema.UnionsOkList u ∧
      ob.UnionsOk
def SchemaObject.UnionsOk : SchemaObject → Prop
  | .mk _ _ _ _ fs items values _ _ => SchemaField.UnionsOkList fs ∧ items.UnionsOk ∧ values.UnionsOk
def Schema.UnionsOkList : List Schema → Prop
  | [] => True
  | s :: r => s.UnionsOk ∧ Schema.UnionsOkList r
def SchemaField.UnionsOkList : List SchemaField → Prop
  | [] => True
  | .mk _ t :: r => t.UnionsOk ∧ SchemaField.UnionsOkList r
end

/-- `Sub x s`: the schema `x` occurs in `s` (as `s` itself, a union branch, a field type, the item
type of an array, the value type of a map, at any depth) -/
inductive Sub : Schema → Schema → Prop
  | refl (s : Schema) : Sub s s
  | branch {x b : Schema} {t : String} {o : Option SchemaObject} {u : List Schema} :
      b ∈ u → Sub x b → Sub x (.mk t o u)
  | field {x : Schema} {f : SchemaField} {t : String} {ob : SchemaObject} {u : List Schema} :
      f ∈ ob.fields → Sub x f.type → Sub x (.mk t (some ob) u)
  | items {x : Schema} {t : String} {ob : SchemaObject} {u : List Schema} :
      Sub x ob.items → Sub x (.mk t (some ob) u)
  | values {x : Schema} {t : String} {ob : SchemaObject} {u : List Schema} :
      Sub x ob.values → Sub x (.mk t (some ob) u)

theorem unionsOkList_mem {u : List Schema} (h : Schema.UnionsOkList u) {b : Schema} (hb : b ∈ u) : b.UnionsOk := by
  induction u with
  | nil => cases hb
  | cons a r ih =>
    simp only [Schema.UnionsOkList] at h
    cases hb with
    | head => exact h.1
    | tail _ h' => exact ih h.2 h'

theorem unionsOkFieldList_mem {fs : List SchemaField} (h : SchemaField.UnionsOkList fs) {f : SchemaField} (hf : f ∈ fs) :
    f.type.UnionsOk := by
  induction fs with
  | nil => cases hf
  | cons a r ih =>
    obtain ⟨n, t⟩ := a
    simp only [SchemaField.UnionsOkList] at h
    cases hf with
    | head => exact h.1
    | tail _ h' => exact ih h.2 h'

theorem unionsOk_branches {t : String} {o : Option SchemaObject} {u : List Schema} (h : (Schema.mk t o u).UnionsOk) :
    Schema.UnionsOkList u := by
  cases o with
  | none => simp only [Schema.UnionsOk] at h; exact h.2
  | some ob => simp only [Schema.UnionsOk] at h; exact h.2.1

theorem unionsOk_top {t : String} {o : Option SchemaObject} {u : List Schema} (h : (Schema.mk t o u).UnionsOk) :
    t = "union" → ∃ x, u = [.prim "null", x] ∧ x.type ≠ "union" ∧ x.type ≠ "null" := by
  cases o with
  | none => simp only [Schema.UnionsOk] at h; exact h.1
  | some ob => simp only [Schema.UnionsOk] at h; exact h.1

theorem unionsOk_object {t : String} {ob : SchemaObject} {u : List Schema} (h : (Schema.mk t (some ob) u).UnionsOk) :
    SchemaField.UnionsOkList ob.fields ∧ ob.items.UnionsOk ∧ ob.values.UnionsOk := by
  obtain ⟨a, b, c, d, fs, i, v, e, g⟩ := ob
  simp only [Schema.UnionsOk, SchemaObject.UnionsOk] at h
  exact h.2.2

theorem unionsOk_sub {x s : Schema} (hs : s.UnionsOk) (h : Sub x s) : x.UnionsOk := by
  induction h with
  | refl => exact hs
  | branch hb _ ih => exact ih (unionsOkList_mem (unionsOk_branches hs) hb)
  | field hf _ ih => exact ih (unionsOkFieldList_mem (unionsOk_object hs).1 hf)
  | items _ ih => exact ih (unionsOk_object hs).2.1
  | values _ ih => exact ih (unionsOk_object hs).2.2

theorem unionsOk_prim {t : String} (h : t ≠ "union") : (Schema.prim t).UnionsOk := by
  simp [Schema.prim, Schema.UnionsOk, Schema.UnionsOkList, h]

theorem unionsOk_zero : Schema.zero.UnionsOk := by
  simp [Schema.zero, Schema.UnionsOk, Schema.UnionsOkList]

theorem unionsOk_nullable {x : Schema} (h : x.UnionsOk) (h1 : x.type ≠ "union") (h2 : x.type ≠ "null") :
    (nullableSchema x).UnionsOk := by
  simp only [nullableSchema, Schema.UnionsOk, Schema.UnionsOkList]
  exact ⟨fun _ => ⟨x, rfl, h1, h2⟩, unionsOk_prim (by decide), h, trivial⟩

theorem unionsOk_array {s : Schema} (h : s.UnionsOk) : (arraySchema s).UnionsOk := by
  simp only [arraySchema, Schema.UnionsOk, SchemaObject.UnionsOk, Schema.UnionsOkList, SchemaField.UnionsOkList]
  exact ⟨fun h => absurd h (by decide), trivial, trivial, h, unionsOk_zero⟩

theorem unionsOk_map {s : Schema} (h : s.UnionsOk) : (mapSchema s).UnionsOk := by
  simp only [mapSchema, Schema.UnionsOk, SchemaObject.UnionsOk, Schema.UnionsOkList, SchemaField.UnionsOkList]
  exact ⟨fun h => absurd h (by decide), trivial, trivial, unionsOk_zero, h⟩

theorem unionsOk_record {name pkg : String} {fs : List SchemaField} (h : SchemaField.UnionsOkList fs) :
    (recordSchema name pkg fs).UnionsOk := by
  simp only [recordSchema, Schema.UnionsOk, SchemaObject.UnionsOk, Schema.UnionsOkList]
  exact ⟨fun h => absurd h (by decide), trivial, h, unionsOk_zero, unionsOk_zero⟩

theorem unionsOk_ptrWrap {u : Schema} (h : u.UnionsOk) (h2 : u.type ≠ "null") :
    (ptrWrap u).UnionsOk ∧ (ptrWrap u).type ≠ "null" := by
  unfold ptrWrap
  split
  · exact ⟨h, h2⟩
  · rename_i hc
    simp only [Bool.or_eq_true, beq_iff_eq, not_or] at hc
    exact ⟨unionsOk_nullable h hc.1.1 h2, by simp [nullable_type]⟩

theorem unionsOk_omitWrap {oe : Bool} {s : Schema} (h : s.UnionsOk) (h2 : s.type ≠ "null") :
    (omitWrap oe s).UnionsOk := by
  unfold omitWrap
  split
  · rename_i hc
    simp only [Bool.and_eq_true, bne_iff_ne, ne_eq] at hc
    exact unionsOk_nullable h hc.2 h2
  · exact h

/-- the registered schemas themselves are flat (the user's obligation when calling `RegisterSchema`) -/
def RegSchemasFlat (sreg : SReg) : Prop :=
  ∀ id s, assocLookup id sreg.custom = some s → s.UnionsOk ∧ s.type ≠ "null"

theorem fieldsOf_unionsOk {rec : GoType → Gen Schema} (hrec : ∀ t s, rec t = .ok s → s.UnionsOk ∧ s.type ≠ "null")
    {fs : List GoField} {r : List SchemaField} (h : FieldsOf rec fs r) : SchemaField.UnionsOkList r := by
  induction h with
  | nil => trivial
  | skip _ _ ih => exact ih
  | keep _ hr _ ih =>
    simp only [SchemaField.UnionsOkList]
    exact ⟨unionsOk_omitWrap (hrec _ _ hr).1 (hrec _ _ hr).2, ih⟩

theorem gen_unionsOk (sreg : SReg) (env : TEnv) (hreg : RegSchemasFlat sreg) :
    ∀ fuel ps t s, schemaForType sreg env fuel ps t = .ok s → s.UnionsOk ∧ s.type ≠ "null" := by
  refine gen_induct (fun _ _ h => sregLookup_cases (fun p h1 h2 =>
    ⟨unionsOk_nullable (unionsOk_prim h1) h1 h2, by show "union" ≠ "null"; decide⟩) hreg h) (fun _ _ _ _ h => h) ?_
  intro rec t s ih _ hk
  generalize t.strip = k at hk
  cases hk with
  | prim hp => exact ⟨unionsOk_prim (primOf_plain hp).1, (primOf_plain hp).2⟩
  | slice _ hu => exact ⟨unionsOk_array (ih _ _ hu).1, by show "array" ≠ "null"; decide⟩
  | array _ hu => exact ⟨unionsOk_array (ih _ _ hu).1, by show "array" ≠ "null"; decide⟩
  | map _ hu => exact ⟨unionsOk_map (ih _ _ hu).1, by show "map" ≠ "null"; decide⟩
  | ptr hu => exact unionsOk_ptrWrap (ih _ _ hu).1 (ih _ _ hu).2
  | struct hf => exact ⟨unionsOk_record (fieldsOf_unionsOk ih hf), by show "record" ≠ "null"; decide⟩

mutual
/-- the record definitions with a name, as (namespace, name), in document order -/
def Schema.recordNames : Schema → List (String × String)
  | .mk _ none u => Schema.recordNamesList u
  | .mk t (some ob) u =>
    (if t == "record" && ob.name != "" then [(ob.nspace, ob.name)] else []) ++ ob.recordNames ++
      Schema.recordNamesList u
def SchemaObject.recordNames : SchemaObject → List (String × String)
  | .mk _ _ _ _ fs items values _ _ => SchemaField.recordNamesList fs ++ items.recordNames ++ values.recordNames
def Schema.recordNamesList : List Schema → List (String × String)
  | [] => []
  | s :: r => s.recordNames ++ Schema.recordNamesList r
def SchemaField.recordNamesList : List SchemaField → List (String × String)
  | [] => []
  | .mk _ t :: r => t.recordNames ++ SchemaField.recordNamesList r
end

mutual
/-- the named struct types of a type tree, as (namespace, name), in declaration order -/
def GoType.structNames : GoType → List (String × String)
  | .struct name pkg fs => (if name != "" then [(namespaceOf pkg, name)] else []) ++ GoField.structNamesList fs
  | .slice e | .array _ e | .ptr e | .custom _ e => e.structNames
  | .map _ v => v.structNames
  | _ => []
def GoField.structNamesList : List GoField → List (String × String)
  | [] => []
  | .mk _ _ _ _ t :: fs => t.structNames ++ GoField.structNamesList fs
end

theorem recordNames_prim (t : String) : (Schema.prim t).recordNames = [] := by
  simp [Schema.prim, Schema.recordNames, Schema.recordNamesList]

theorem recordNames_zero : Schema.zero.recordNames = [] := by
  simp [Schema.zero, Schema.recordNames, Schema.recordNamesList]

theorem recordNames_nullable (x : Schema) : (nullableSchema x).recordNames = x.recordNames := by
  simp [nullableSchema, Schema.recordNames, Schema.recordNamesList, recordNames_prim]

theorem recordNames_ptrWrap (u : Schema) : (ptrWrap u).recordNames = u.recordNames := by
  unfold ptrWrap; split <;> simp [recordNames_nullable]

theorem recordNames_omitWrap (oe : Bool) (u : Schema) : (omitWrap oe u).recordNames = u.recordNames := by
  unfold omitWrap; split <;> simp [recordNames_nullable]

theorem recordNames_array (s : Schema) : (arraySchema s).recordNames = s.recordNames := by
  simp [arraySchema, Schema.recordNames, SchemaObject.recordNames, Schema.recordNamesList,
    SchemaField.recordNamesList, recordNames_zero, SchemaObject.name]

theorem recordNames_map (s : Schema) : (mapSchema s).recordNames = s.recordNames := by
  simp [mapSchema, Schema.recordNames, SchemaObject.recordNames, Schema.recordNamesList,
    SchemaField.recordNamesList, recordNames_zero, SchemaObject.name]

theorem recordNames_record (name pkg : String) (fs : List SchemaField) :
    (recordSchema name pkg fs).recordNames =
      (if name != "" then [(namespaceOf pkg, name)] else []) ++ SchemaField.recordNamesList fs := by
  simp [recordSchema, Schema.recordNames, SchemaObject.recordNames, Schema.recordNamesList, recordNames_zero,
    SchemaObject.name, SchemaObject.nspace]

/-- registered schemas that define no named record (true of the library's own registrations) -/
def RegSchemasNameless (sreg : SReg) : Prop :=
  ∀ id s, assocLookup id sreg.custom = some s → s.recordNames = []

theorem fieldsOf_recordNames {rec : GoType → Gen Schema}
    (hrec : ∀ t s, rec t = .ok s → s.recordNames.Sublist t.structNames)
    {fs : List GoField} {r : List SchemaField} (h : FieldsOf rec fs r) :
    (SchemaField.recordNamesList r).Sublist (GoField.structNamesList fs) := by
  induction h with
  | nil => exact List.Sublist.refl _
  | @skip f fs r _ _ ih =>
    obtain ⟨n, e, j, b, t⟩ := f
    simp only [GoField.structNamesList]
    exact List.Sublist.trans ih (List.sublist_append_right _ _)
  | @keep f fs r s _ hr _ ih =>
    obtain ⟨n, e, j, b, t⟩ := f
    simp only [GoField.structNamesList, SchemaField.recordNamesList, recordNames_omitWrap]
    exact List.Sublist.append (hrec _ _ hr) ih

theorem strip_structNames (t : GoType) : t.strip.structNames = t.structNames := by
  cases t <;> simp [GoType.strip, GoType.structNames]

/-- for `TEnv.empty` only: a back-reference has no struct names of its own (`structNames (.ref n) = []`), while
the schema generated through it has those of the type it refers to -/
theorem gen_recordNames (sreg : SReg) (hreg : RegSchemasNameless sreg) :
    ∀ fuel ps t s, schemaForType sreg TEnv.empty fuel ps t = .ok s → s.recordNames.Sublist t.structNames := by
  refine gen_induct (fun _ _ h => by
      rw [sregLookup_cases (P := fun s => s.recordNames = [])
        (fun p _ _ => by rw [recordNames_nullable, recordNames_prim]) hreg h]
      exact List.nil_sublist _)
    (fun _ _ _ he _ => by cases he) ?_
  intro rec t s ih _ hk
  rw [← strip_structNames]
  generalize t.strip = k at hk ⊢
  cases hk with
  | prim _ => rw [recordNames_prim]; exact List.nil_sublist _
  | slice _ hu => rw [recordNames_array, GoType.structNames]; exact ih _ _ hu
  | array _ hu => rw [recordNames_array, GoType.structNames]; exact ih _ _ hu
  | map _ hu => rw [recordNames_map, GoType.structNames]; exact ih _ _ hu
  | ptr hu => rw [recordNames_ptrWrap, GoType.structNames]; exact ih _ _ hu
  | struct hf =>
    rw [recordNames_record, GoType.structNames]
    exact List.Sublist.append (List.Sublist.refl _) (fieldsOf_recordNames ih hf)

mutual
/-- every record anywhere in the schema has pairwise distinct field names -/
def Schema.FieldsUnique : Schema → Prop
  | .mk _ none u => Schema.FieldsUniqueList u
  | .mk t (some ob) u =>
    (t = "record" → (ob.fields.map SchemaField.name).Nodup) ∧ ob.FieldsUnique ∧ Schema.FieldsUniqueList u
def SchemaObject.FieldsUnique : SchemaObject → Prop
  | .mk _ _ _ _ fs items values _ _ => SchemaField.FieldsUniqueList fs ∧ items.FieldsUnique ∧ values.FieldsUnique
def Schema.FieldsUniqueList : List Schema → Prop
  | [] => True
  | s :: r => s.FieldsUnique ∧ Schema.FieldsUniqueList r
def SchemaField.FieldsUniqueList : List SchemaField → Prop
  | [] => True
  | .mk _ t :: r => t.FieldsUnique ∧ SchemaField.FieldsUniqueList r
end

mutual
/-- in every struct of the type tree the JSON names of the included fields are pairwise distinct -/
def GoType.JsonNamesDistinct : GoType → Prop
  | .struct _ _ fs => ((fs.map nameForField).filter (· != "-")).Nodup ∧ GoField.JsonNamesDistinctList fs
  | .slice e | .array _ e | .ptr e | .custom _ e => e.JsonNamesDistinct
  | .map _ v => v.JsonNamesDistinct
  | _ => True
def GoField.JsonNamesDistinctList : List GoField → Prop
  | [] => True
  | .mk _ _ _ _ t :: fs => t.JsonNamesDistinct ∧ GoField.JsonNamesDistinctList fs
end

theorem fieldsUnique_prim (t : String) : (Schema.prim t).FieldsUnique := by
  simp [Schema.prim, Schema.FieldsUnique, Schema.FieldsUniqueList]

theorem fieldsUnique_zero : Schema.zero.FieldsUnique := by
  simp [Schema.zero, Schema.FieldsUnique, Schema.FieldsUniqueList]

theorem fieldsUnique_nullable {x : Schema} (h : x.FieldsUnique) : (nullableSchema x).FieldsUnique := by
  simp only [nullableSchema, Schema.FieldsUnique, Schema.FieldsUniqueList]
  exact ⟨fieldsUnique_prim _, h, trivial⟩

theorem fieldsUnique_ptrWrap {u : Schema} (h : u.FieldsUnique) : (ptrWrap u).FieldsUnique := by
  unfold ptrWrap; split
  · exact h
  · exact fieldsUnique_nullable h

theorem fieldsUnique_omitWrap {oe : Bool} {u : Schema} (h : u.FieldsUnique) : (omitWrap oe u).FieldsUnique := by
  unfold omitWrap; split
  · exact fieldsUnique_nullable h
  · exact h

theorem fieldsUnique_array {s : Schema} (h : s.FieldsUnique) : (arraySchema s).FieldsUnique := by
  simp only [arraySchema, Schema.FieldsUnique, SchemaObject.FieldsUnique, Schema.FieldsUniqueList,
    SchemaField.FieldsUniqueList]
  exact ⟨fun h => absurd h (by decide), ⟨trivial, h, fieldsUnique_zero⟩, trivial⟩

theorem fieldsUnique_map {s : Schema} (h : s.FieldsUnique) : (mapSchema s).FieldsUnique := by
  simp only [mapSchema, Schema.FieldsUnique, SchemaObject.FieldsUnique, Schema.FieldsUniqueList,
    SchemaField.FieldsUniqueList]
  exact ⟨fun h => absurd h (by decide), ⟨trivial, fieldsUnique_zero, h⟩, trivial⟩

theorem fieldsUnique_record {name pkg : String} {fs : List SchemaField} (hn : (fs.map SchemaField.name).Nodup)
    (h : SchemaField.FieldsUniqueList fs) : (recordSchema name pkg fs).FieldsUnique := by
  simp only [recordSchema, Schema.FieldsUnique, SchemaObject.FieldsUnique, Schema.FieldsUniqueList]
  exact ⟨fun _ => hn, ⟨h, fieldsUnique_zero, fieldsUnique_zero⟩, trivial⟩

def RegSchemasFieldsUnique (sreg : SReg) : Prop :=
  ∀ id s, assocLookup id sreg.custom = some s → s.FieldsUnique

theorem fieldsOf_names {rec : GoType → Gen Schema} {fs : List GoField} {r : List SchemaField} (h : FieldsOf rec fs r) :
    r.map SchemaField.name = (fs.map nameForField).filter (· != "-") := by
  induction h with
  | nil => rfl
  | skip hn _ ih => simp [hn, ih]
  | keep hn _ _ ih => simp [hn, ih, SchemaField.name]

theorem fieldsOf_fieldsUnique {rec : GoType → Gen Schema}
    (hrec : ∀ t s, t.JsonNamesDistinct → rec t = .ok s → s.FieldsUnique)
    {fs : List GoField} {r : List SchemaField} (h : FieldsOf rec fs r) (hd : GoField.JsonNamesDistinctList fs) :
    SchemaField.FieldsUniqueList r := by
  induction h with
  | nil => trivial
  | @skip f fs r _ _ ih =>
    obtain ⟨n, e, j, b, t⟩ := f
    simp only [GoField.JsonNamesDistinctList] at hd
    exact ih hd.2
  | @keep f fs r s _ hr _ ih =>
    obtain ⟨n, e, j, b, t⟩ := f
    simp only [GoField.JsonNamesDistinctList] at hd
    simp only [SchemaField.FieldsUniqueList]
    exact ⟨fieldsUnique_omitWrap (hrec _ _ hd.1 hr), ih hd.2⟩

/-- for `TEnv.empty` only, as `gen_recordNames`: `(.ref n).JsonNamesDistinct` holds whatever the type referred to -/
theorem gen_fieldsUnique (sreg : SReg) (hreg : RegSchemasFieldsUnique sreg) :
    ∀ fuel ps t s, t.JsonNamesDistinct → schemaForType sreg TEnv.empty fuel ps t = .ok s → s.FieldsUnique := by
  intro fuel ps t s hd h
  refine gen_induct (P := fun t s => t.JsonNamesDistinct → s.FieldsUnique)
    (fun _ _ h _ => sregLookup_cases (fun p _ _ => fieldsUnique_nullable (fieldsUnique_prim p)) hreg h)
    (fun _ _ _ he _ => by cases he) ?_ fuel ps t s h hd
  intro rec t s ih _ hk hd
  have hd' : t.strip.JsonNamesDistinct := by cases t <;> exact hd
  generalize t.strip = k at hk hd'
  cases hk with
  | prim _ => exact fieldsUnique_prim _
  | slice _ hu => exact fieldsUnique_array (ih _ _ hu hd')
  | array _ hu => exact fieldsUnique_array (ih _ _ hu hd')
  | map _ hu => exact fieldsUnique_map (ih _ _ hu hd')
  | ptr hu => exact fieldsUnique_ptrWrap (ih _ _ hu hd')
  | struct hf =>
    exact fieldsUnique_record (by rw [fieldsOf_names hf]; exact hd'.1)
      (fieldsOf_fieldsUnique (fun t s hd h => ih t s h hd) hf hd'.2)

end Avro
