import AvroModel.Lemmas.SchemaGen
import AvroModel.Lemmas.BuildKind
/-! Lemmas for C20 `unaffected`: a registration only matters for types that mention the registered type. -/
namespace Avro

mutual
/-- does the registered type `custom id` occur in the type tree -/
def GoType.mentions (id : Nat) : GoType → Bool
  | .custom i u => i == id || u.mentions id
  | .slice e | .array _ e | .ptr e => e.mentions id
  | .map k v => k.mentions id || v.mentions id
  | .struct _ _ fs => GoField.mentionsList id fs
  | _ => false
def GoField.mentionsList (id : Nat) : List GoField → Bool
  | [] => false
  | .mk _ _ _ _ t :: fs => t.mentions id || GoField.mentionsList id fs
end

theorem mentionsList_mem {id : Nat} {fs : List GoField} (h : GoField.mentionsList id fs = false) {f : GoField}
    (hf : f ∈ fs) : f.type.mentions id = false := by
  induction fs with
  | nil => cases hf
  | cons g gs ih =>
    obtain ⟨n, e, j, b, t⟩ := g
    simp only [GoField.mentionsList, Bool.or_eq_false_iff] at h
    cases hf with
    | head => exact h.1
    | tail _ h' => exact ih h.2 h'

theorem strip_mentions {id : Nat} {t : GoType} (h : t.mentions id = false) : t.strip.mentions id = false := by
  cases t <;> simp_all [GoType.strip, GoType.mentions]

theorem sregLookup_register_ne (sreg : SReg) (id : Nat) (s : Schema) (t : GoType) (h : t.mentions id = false) :
    sregLookup (sreg.register id s) t = sregLookup sreg t := by
  cases t <;> simp only [sregLookup]
  rename_i i u
  simp only [GoType.mentions, Bool.or_eq_false_iff, beq_eq_false_iff_ne, ne_eq] at h
  have : (id == i) = false := by simpa using fun hh => h.1 hh.symm
  simp [SReg.register, assocLookup, this]

theorem genFields_congr (rec rec' : GoType → Gen Schema) (fs : List GoField)
    (h : ∀ f ∈ fs, rec f.type = rec' f.type) : genFields rec fs = genFields rec' fs := by
  induction fs with
  | nil => rfl
  | cons f fs ih =>
    simp only [genFields]
    rw [h f List.mem_cons_self, ih (fun g hg => h g (List.mem_cons_of_mem _ hg))]

theorem genKind_congr (env : TEnv) (id : Nat) (rec rec' : GoType → Gen Schema) (k : GoType)
    (h : ∀ e, e.mentions id = false → rec e = rec' e) (hk : k.mentions id = false) :
    genKind env rec k = genKind env rec' k := by
  cases k <;> simp only [genKind] <;> simp only [GoType.mentions, Bool.or_eq_false_iff] at hk
  case slice e => rw [h e hk]
  case array n e => rw [h e hk]
  case map k v => rw [h v hk.2]
  case ptr e => rw [h e hk]
  case struct name pkg fs =>
    rw [genFields_congr rec rec' fs (fun f hf => h _ (mentionsList_mem hk hf))]

def typOk (id : Nat) : Option GoType → Prop
  | none => True
  | some t => t.mentions id = false

def fieldsOk (id : Nat) : Option (List GoField) → Prop
  | none => True
  | some fs => GoField.mentionsList id fs = false

theorem regLookup_register_ne (reg : Reg) (id : Nat) (acc : Schema → Bool) (t : GoType) (h : t.mentions id = false) :
    regLookup (reg.register id acc) t = regLookup reg t := by
  cases t <;> try rfl
  rename_i i u
  simp only [GoType.mentions, Bool.or_eq_false_iff, beq_eq_false_iff_ne, ne_eq] at h
  simp [regLookup, Reg.register, h.1]

/-- at fuel `n` each of the five mutually recursive builders gives the same result with and without the
registration of `id`, on targets that do not mention `custom id` -/
structure UnaffAt (reg : Reg) (id : Nat) (acc : Schema → Bool) (n : Nat) : Prop where
  build : ∀ s typ oe, typOk id typ → buildCodec (reg.register id acc) n s typ oe = buildCodec reg n s typ oe
  kind : ∀ s typ oe, typOk id typ → buildKind (reg.register id acc) n s typ oe = buildKind reg n s typ oe
  union : ∀ bs typ oe, typOk id typ → buildUnion (reg.register id acc) n bs typ oe = buildUnion reg n bs typ oe
  branches : ∀ bs typ oe, typOk id typ → buildBranches (reg.register id acc) n bs typ oe = buildBranches reg n bs typ oe
  fields : ∀ sfs gfs, fieldsOk id gfs → buildFields (reg.register id acc) n sfs gfs = buildFields reg n sfs gfs

theorem unaff_build (reg : Reg) (id : Nat) (acc : Schema → Bool) (n : Nat) (ih : UnaffAt reg id acc n) :
    ∀ s typ oe, typOk id typ → buildCodec (reg.register id acc) (n + 1) s typ oe = buildCodec reg (n + 1) s typ oe := by
  intro s typ oe hok
  simp only [buildCodec]
  split
  · cases typ with
    | none => exact ih.kind s none oe hok
    | some t =>
      by_cases hp : ∃ e, t = .ptr e
      · obtain ⟨e, rfl⟩ := hp
        simp only
        rw [ih.build s (some e) false hok]
      · have hl := regLookup_register_ne reg id acc t hok
        cases t <;> first | exact absurd ⟨_, rfl⟩ hp | (simp only [hl]; rw [ih.kind _ _ _ hok])
  · exact ih.kind s typ oe hok

theorem unaff_union (reg : Reg) (id : Nat) (acc : Schema → Bool) (n : Nat) (ih : UnaffAt reg id acc n) :
    ∀ bs typ oe, typOk id typ → buildUnion (reg.register id acc) (n + 1) bs typ oe = buildUnion reg (n + 1) bs typ oe := by
  intro bs typ oe hok
  simp only [buildUnion]
  split
  · rw [ih.build _ _ _ hok]
  · rw [ih.branches _ _ _ hok]

theorem unaff_branches (reg : Reg) (id : Nat) (acc : Schema → Bool) (n : Nat) (ih : UnaffAt reg id acc n) :
    ∀ bs typ oe, typOk id typ →
      buildBranches (reg.register id acc) (n + 1) bs typ oe = buildBranches reg (n + 1) bs typ oe := by
  intro bs typ oe hok
  cases bs with
  | nil => rfl
  | cons b bs => simp only [buildBranches]; rw [ih.build _ _ _ hok, ih.branches _ _ _ hok]

theorem unaff_fields (reg : Reg) (id : Nat) (acc : Schema → Bool) (n : Nat) (ih : UnaffAt reg id acc n) :
    ∀ sfs gfs, fieldsOk id gfs → buildFields (reg.register id acc) (n + 1) sfs gfs = buildFields reg (n + 1) sfs gfs := by
  intro sfs gfs hok
  cases sfs with
  | nil => rfl
  | cons sf sfs =>
    simp only [buildFields]
    rw [ih.fields _ _ hok]
    cases gfs with
    | none => simp only; rw [ih.build _ none false trivial]
    | some fs =>
      simp only
      cases hlf : lookupField sf.name fs 0 none with
      | none => simp only; rw [ih.build _ none false trivial]
      | some r =>
        obtain ⟨i, gf⟩ := r
        have hm : gf.type.mentions id = false := mentionsList_mem hok (List.mem_of_getElem? (lookupField_get hlf))
        simp only; rw [ih.build _ (some gf.type) _ hm]

theorem unaff_kind (reg : Reg) (id : Nat) (acc : Schema → Bool) (n : Nat) (ih : UnaffAt reg id acc n) :
    ∀ s typ oe, typOk id typ → buildKind (reg.register id acc) (n + 1) s typ oe = buildKind reg (n + 1) s typ oe := by
  intro s typ oe hok
  have hk : typOk id (typ.map GoType.strip) := by cases typ <;> first | trivial | exact strip_mentions hok
  simp only [buildKind, ih.union _ _ _ hok]
  generalize typ.map GoType.strip = k at hk
  -- by the kind of the target, not by the schema type: each recursive call of the switch is then closed
  cases k with
  | none => simp only [ih.fields _ none trivial, ih.build _ none false trivial]
  | some t =>
    cases t <;> simp only [typOk, GoType.mentions, Bool.or_eq_false_iff] at hk
    case slice e => simp only [ih.build _ (some e) false hk]
    case map key v => simp only [ih.build _ (some v) false hk.2]
    case struct nm pk gfs => simp only [ih.fields _ (some gfs) hk]
    case time | nullT => simp only [ih.fields _ (some []) rfl]
    all_goals rfl

theorem unaff_all (reg : Reg) (id : Nat) (acc : Schema → Bool) : ∀ n, UnaffAt reg id acc n := by
  intro n
  induction n with
  | zero => exact ⟨fun _ _ _ _ => rfl, fun _ _ _ _ => rfl, fun _ _ _ _ => rfl, fun _ _ _ _ => rfl, fun _ _ _ => rfl⟩
  | succ m ih =>
    exact ⟨unaff_build reg id acc m ih, unaff_kind reg id acc m ih, unaff_union reg id acc m ih,
      unaff_branches reg id acc m ih, unaff_fields reg id acc m ih⟩


end Avro
