import AvroModel.Sem
/-!
The equations of `write`, `toAvro`, `ofAvro` and their list companions at the arguments proofs
unfold them at, each stated once; all hold by `rfl`.
The right-hand sides keep the model's `match` form: a `match` stuck on a variable is not
definitionally an `Option.map` or `bind`, so in that form they would not be `rfl`.
-/
namespace Avro

variable (env : Env)

theorem write_array (n : Nat) (item : Codec) (o : Bool) (items : List GoVal) :
    write env (n + 1) (.array item o) (.slice items) =
      if items.isEmpty then some (writeVarint 0) else
      match writeItems env n item items with
      | some body => some (writeVarint items.length ++ body ++ writeVarint 0)
      | none => none := rfl

theorem write_map (n : Nat) (val : Codec) (o nl : Bool) (ks : List Bytes) (vs : List GoVal) :
    write env (n + 1) (.map val o) (.map nl ks vs) =
      if ks.isEmpty then some (writeVarint 0) else
      match writeEntries env n val ks vs with
      | some body => some (writeVarint ks.length ++ body ++ writeVarint 0)
      | none => none := rfl

theorem write_ptr_none (n : Nat) (c : Codec) :
    write env (n + 1) (.pointer c) (.ptr none) =
      match Codec.stripPtr c with
      | .array _ _ | .map _ _ => some (writeVarint 0)
      | _ => some [] := rfl

theorem write_ptr (n : Nat) (c : Codec) (x : GoVal) :
    write env (n + 1) (.pointer c) (.ptr (some x)) = write env n c x := rfl

theorem write_record (n : Nat) (z : List GoVal) (cs : List Codec) (ts : List (Option Nat)) (fs : List GoVal) :
    write env (n + 1) (.record z cs ts) (.struct fs) = writeFields env n cs ts fs := rfl

theorem write_unionOne (n : Nat) (c : Codec) (nn : Nat) (g : GoVal) :
    write env (n + 1) (.unionOne c nn) g =
      if omits env c g then some (writeVarint (1 - (nn : Int)))
      else match write env n c g with
        | some b => some (writeVarint nn ++ b)
        | none => none := rfl

theorem write_unionNullString (n : Nat) (o : Bool) (nn : Nat) (bs : Bytes) :
    write env (n + 1) (.unionNullString o nn) (.str bs) =
      if o && bs.isEmpty then some (writeVarint (1 - (nn : Int))) else some (writeVarint nn ++ encLen bs) := rfl

theorem writeItems_cons (n : Nat) (c : Codec) (v : GoVal) (vs : List GoVal) :
    writeItems env (n + 1) c (v :: vs) =
      match write env n c v, writeItems env n c vs with
      | some a, some b => some (a ++ b)
      | _, _ => none := rfl

theorem writeEntries_cons (n : Nat) (c : Codec) (k : Bytes) (ks : List Bytes) (v : GoVal) (vs : List GoVal) :
    writeEntries env (n + 1) c (k :: ks) (v :: vs) =
      match write env n c v, writeEntries env n c ks vs with
      | some a, some b => some (encLen k ++ a ++ b)
      | _, _ => none := rfl

theorem writeFields_cons (n : Nat) (c : Codec) (cs : List Codec) (i : Nat) (ts : List (Option Nat)) (fs : List GoVal) :
    writeFields env (n + 1) (c :: cs) (some i :: ts) fs =
      match fs[i]? with
      | none => none
      | some v =>
        match write env n c v, writeFields env n cs ts fs with
        | some a, some b => some (a ++ b)
        | _, _ => none := rfl

variable (nullp : Codec → GoVal → Bool)

theorem toAvro_array (n : Nat) (item : Codec) (o : Bool) (items : List GoVal) :
    toAvro env nullp (n + 1) (.array item o) (.slice items) = (toAvroItems env nullp n item items).map .array := rfl

theorem toAvro_map (n : Nat) (val : Codec) (o nl : Bool) (ks : List Bytes) (vs : List GoVal) :
    toAvro env nullp (n + 1) (.map val o) (.map nl ks vs) = (toAvroItems env nullp n val vs).map (.map ks) := rfl

theorem toAvro_ptr_none (n : Nat) (c : Codec) :
    toAvro env nullp (n + 1) (.pointer c) (.ptr none) =
      match Codec.stripPtr c with
      | .array _ _ => some (.array [])
      | .map _ _ => some (.map [] [])
      | _ => none := rfl

theorem toAvro_ptr (n : Nat) (c : Codec) (x : GoVal) :
    toAvro env nullp (n + 1) (.pointer c) (.ptr (some x)) = toAvro env nullp n c x := rfl

theorem toAvro_record (n : Nat) (z : List GoVal) (cs : List Codec) (ts : List (Option Nat)) (fs : List GoVal) :
    toAvro env nullp (n + 1) (.record z cs ts) (.struct fs) = (toAvroFields env nullp n cs ts fs).map .record := rfl

theorem toAvro_unionOne (n : Nat) (c : Codec) (nn : Nat) (g : GoVal) :
    toAvro env nullp (n + 1) (.unionOne c nn) g =
      if nullp c g then some (.union (1 - nn) .null) else (toAvro env nullp n c g).map (.union nn) := rfl

theorem toAvro_unionNullString (n : Nat) (o : Bool) (nn : Nat) (bs : Bytes) :
    toAvro env nullp (n + 1) (.unionNullString o nn) (.str bs) =
      if o && bs.isEmpty then some (.union (1 - nn) .null) else some (.union nn (.bytes bs)) := rfl

theorem toAvroItems_cons (n : Nat) (c : Codec) (g : GoVal) (gs : List GoVal) :
    toAvroItems env nullp (n + 1) c (g :: gs) =
      match toAvro env nullp n c g, toAvroItems env nullp n c gs with
      | some v, some vs => some (v :: vs)
      | _, _ => none := rfl

theorem toAvroFields_cons (n : Nat) (c : Codec) (cs : List Codec) (i : Nat) (ts : List (Option Nat)) (fs : List GoVal) :
    toAvroFields env nullp (n + 1) (c :: cs) (some i :: ts) fs =
      match fs[i]? with
      | none => none
      | some g =>
        match toAvro env nullp n c g, toAvroFields env nullp n cs ts fs with
        | some v, some vs => some (v :: vs)
        | _, _ => none := rfl

theorem ofAvro_array (n : Nat) (item : Codec) (o : Bool) (vs : List Value) (items : List GoVal) :
    ofAvro env (n + 1) (.array item o) (.array vs) (.slice items) =
      if items.length + vs.length ≥ 2 ^ 63 then .illtyped else
      (mapFit (fun v => ofAvro env n item v (Codec.zero env item)) vs).bind fun gs => .ok (.slice (items ++ gs)) := rfl

theorem ofAvro_map (n : Nat) (val : Codec) (o nl : Bool) (ks : List Bytes) (vs : List Value) (ks0 : List Bytes)
    (vs0 : List GoVal) :
    ofAvro env (n + 1) (.map val o) (.map ks vs) (.map nl ks0 vs0) =
      (mapFit (fun v => ofAvro env n val v (Codec.zero env val)) vs).bind fun gs =>
        .ok (.map false (assignAll ks gs ks0 vs0).1 (assignAll ks gs ks0 vs0).2) := rfl

theorem ofAvro_ptr_none (n : Nat) (c : Codec) (v : Value) :
    ofAvro env (n + 1) (.pointer c) v (.ptr none) =
      (ofAvro env n c v (Codec.zero env c)).bind fun g => .ok (.ptr (some g)) := rfl

theorem ofAvro_ptr_some (n : Nat) (c : Codec) (v : Value) (x : GoVal) :
    ofAvro env (n + 1) (.pointer c) v (.ptr (some x)) =
      (ofAvro env n c v x).bind fun g => .ok (.ptr (some g)) := rfl

theorem ofAvro_record (n : Nat) (z : List GoVal) (cs : List Codec) (ts : List (Option Nat)) (vs : List Value)
    (fs : List GoVal) :
    ofAvro env (n + 1) (.record z cs ts) (.record vs) (.struct fs) =
      (fieldsFit (ofAvro env n) cs ts vs fs).bind fun fs' => .ok (.struct fs') := rfl

theorem ofAvro_union (n : Nat) (cs : List Codec) (idx : Nat) (v : Value) (dst : GoVal) :
    ofAvro env (n + 1) (.union cs) (.union idx v) dst =
      match cs[idx]? with
      | some c => ofAvro env n c v dst
      | none => .illtyped := rfl

theorem ofAvro_unionOne (n : Nat) (c : Codec) (nn idx : Nat) (v : Value) (dst : GoVal) :
    ofAvro env (n + 1) (.unionOne c nn) (.union idx v) dst =
      if idx ≥ 2 then .illtyped else if idx = nn then ofAvro env n c v dst else .ok dst := rfl

section
variable (n : Nat) (dst : GoVal)

theorem ofAvro_bool (o b : Bool) : ofAvro env (n + 1) (.bool o) (.bool b) dst = .ok (.bool b) := rfl
theorem ofAvro_int (w : Nat) (o : Bool) (i : Int) :
    ofAvro env (n + 1) (.int w o) (.int i) dst = if inRange w i then .ok (.int i) else .misfit := rfl
theorem ofAvro_float (o : Bool) (b : Nat) : ofAvro env (n + 1) (.float o) (.float b) dst = .ok (.f32 b) := rfl
theorem ofAvro_double (o : Bool) (b : Nat) : ofAvro env (n + 1) (.double o) (.double b) dst = .ok (.f64 b) := rfl
theorem ofAvro_f32double (o : Bool) (b : Nat) :
    ofAvro env (n + 1) (.f32double o) (.double b) dst = .ok (.f32 (env.narrow b)) := rfl
theorem ofAvro_bytes (o : Bool) (bs : Bytes) :
    ofAvro env (n + 1) (.bytes o) (.bytes bs) dst = if bs.isEmpty then .ok dst else .ok (.bytes bs) := rfl
theorem ofAvro_string (o : Bool) (bs : Bytes) : ofAvro env (n + 1) (.string o) (.bytes bs) dst = .ok (.str bs) := rfl
theorem ofAvro_fixed (k : Int) (bs : Bytes) : ofAvro env (n + 1) (.fixed k) (.bytes bs) dst = .ok (.fixed bs) := rfl
theorem ofAvro_timeString (bs : Bytes) :
    ofAvro env (n + 1) .timeString (.bytes bs) dst =
      if bs.isEmpty then .ok dst else
      match env.parseTime bs with
      | some t => .ok (.time t)
      | none => .misfit := rfl
theorem ofAvro_timeLong (mult i : Int) :
    ofAvro env (n + 1) (.timeLong mult) (.int i) dst = .ok (.time (env.ofNanos (wrap64 (i * mult)))) := rfl
theorem ofAvro_date (i : Int) :
    ofAvro env (n + 1) .date (.int i) dst = if inRange 32 i then .ok (.time (env.ofDays i)) else .misfit := rfl
theorem ofAvro_unionNullString (o : Bool) (nn idx : Nat) (v : Value) :
    ofAvro env (n + 1) (.unionNullString o nn) (.union idx v) dst =
      if idx ≥ 2 then .illtyped
      else if idx = nn then
        match v with
        | .bytes bs => .ok (.str bs)
        | _ => .illtyped
      else .ok dst := rfl
theorem ofAvro_nullw_time (bs : Bytes) :
    ofAvro env (n + 1) (.nullw .time) (.bytes bs) dst =
      if bs.isEmpty then .ok (.nullw true (match dst with | .nullw _ x => x | x => x)) else
      match env.parseTime bs with
      | some t => .ok (.nullw true (.time t))
      | none => .misfit := rfl

end

theorem mapFit_nil (f : Value → Fit GoVal) : mapFit f [] = .ok [] := rfl

theorem mapFit_cons (f : Value → Fit GoVal) (v : Value) (vs : List Value) :
    mapFit f (v :: vs) = (f v).bind fun g => (mapFit f vs).bind fun gs => .ok (g :: gs) := rfl

theorem fieldsFit_nil (f : Codec → Value → GoVal → Fit GoVal) (ts : List (Option Nat)) (fs : List GoVal) :
    fieldsFit f [] ts [] fs = .ok fs := rfl

theorem fieldsFit_skip (f : Codec → Value → GoVal → Fit GoVal) (c : Codec) (cs : List Codec) (ts : List (Option Nat))
    (v : Value) (vs : List Value) (fs : List GoVal) :
    fieldsFit f (c :: cs) (none :: ts) (v :: vs) fs = fieldsFit f cs ts vs fs := rfl

theorem fieldsFit_cons (f : Codec → Value → GoVal → Fit GoVal) (c : Codec) (cs : List Codec) (i : Nat)
    (ts : List (Option Nat)) (v : Value) (vs : List Value) (fs : List GoVal) :
    fieldsFit f (c :: cs) (some i :: ts) (v :: vs) fs =
      match fs[i]? with
      | none => .illtyped
      | some cur => (f c v cur).bind fun g => fieldsFit f cs ts vs (listSet fs i g) := rfl

theorem assignAll_nil (gs : List GoVal) (ks0 : List Bytes) (vs0 : List GoVal) :
    assignAll [] gs ks0 vs0 = (ks0, vs0) := rfl

theorem assignAll_cons (k : Bytes) (ks : List Bytes) (g : GoVal) (gs : List GoVal) (ks0 : List Bytes) (vs0 : List GoVal) :
    assignAll (k :: ks) (g :: gs) ks0 vs0 = assignAll ks gs (mapAssign k g ks0 vs0).1 (mapAssign k g ks0 vs0).2 := rfl

/-- the writer's length-prefixed bytes (`Codec.lean`) are the specification's (`Wire.lean`) -/
theorem encLen_eq_encBytes (b : Bytes) : encLen b = encBytes b := rfl

end Avro
