import AvroModel.Sem
import AvroModel.CodecFor
import AvroModel.Lemmas.BuildSteps
/-!
Successful codec construction yields a codec of the right shape for the schema:
`buildCodec reg n s typ oe = ok c → classify s = some a → CodecFor c a`
(for the library's own registrations; user-registered builders are abstract and handled in C20).
This ties the codec theorems (C03, C04, C02/C13), stated under `CodecFor`, to the model of build.go.
-/
namespace Avro

structure BuildOkAt (reg : Reg) (n : Nat) : Prop where
  build : ∀ s typ oe c, buildCodec reg n s typ oe = .ok c → ∀ fa a, classify fa s = some a → CodecFor c a
  kind : ∀ s typ oe c, buildKind reg n s typ oe = .ok c → ∀ fa a, classify fa s = some a → CodecFor c a
  union : ∀ bs typ oe c, buildUnion reg n bs typ oe = .ok c → ∀ fa as, classifyBranches fa bs = some as →
    CodecFor c (.union as)
  branches : ∀ bs typ oe cs, buildBranches reg n bs typ oe = .ok cs → ∀ fa as, classifyBranches fa bs = some as →
    CodecsFor cs as
  fields : ∀ sfs gfs cs ts, buildFields reg n sfs gfs = .ok (cs, ts) → ∀ fa ns as, classifyFields fa sfs = some (ns, as) →
    CodecsFor cs as ∧ ts.length = cs.length

theorem fuel_succ_of_some {σ β : Type} {f : Nat → σ → Option β} {fa : Nat} {x : σ} {r : β} (h : f fa x = some r)
    (h0 : f 0 x = none) : ∃ fa', fa = fa' + 1 := by
  cases fa with
  | zero => rw [h0] at h; cases h
  | succ fa' => exact ⟨fa', rfl⟩

theorem buildTime_ok {s : Schema} {c : Codec} (h : buildTime s = .ok c) {fa : Nat} {a : ASchema}
    (hc : classify fa s = some a) : CodecFor c a := by
  obtain ⟨fa', rfl⟩ := fuel_succ_of_some hc rfl
  rcases buildTime_inv h with ⟨hs, rfl⟩ | ⟨hs, m, rfl⟩ | ⟨hs, rfl⟩ <;> simp [classify, hs] at hc <;> subst hc
  · exact .timeString
  · exact .timeLong
  · exact .date

theorem buildNull_ok {k : NullKind} {s : Schema} {c : Codec} (h : buildNull k s = .ok c) {fa : Nat} {a : ASchema}
    (hc : classify fa s = some a) : CodecFor c a := by
  obtain ⟨fa', rfl⟩ := fuel_succ_of_some hc rfl
  rcases buildNull_inv h with ⟨-, hs | hs, rfl⟩ | ⟨-, hs, rfl⟩ | ⟨-, hs, rfl⟩ | ⟨-, hs, rfl⟩ | ⟨-, hs, rfl⟩ | ⟨-, hs, rfl⟩ <;>
    simp [classify, hs] at hc <;> subst hc
  · exact .nullInt
  · exact .nullIntI
  · exact .nullBool
  · exact .nullDouble
  · exact .nullFloat
  · exact .nullString
  · exact .nullTime

theorem buildOk_kind (reg : Reg) (n : Nat) (ih : BuildOkAt reg n) :
    ∀ s typ oe c, buildKind reg (n + 1) s typ oe = .ok c → ∀ fa a, classify fa s = some a → CodecFor c a := by
  intro s typ oe c hb fa a hc
  obtain ⟨fa', rfl⟩ := fuel_succ_of_some hc rfl
  simp only [classify] at hc
  -- in every arm the schema type is known, which decides `classify`; the target type plays no part
  cases buildKind_inv hb with
  | null hs => simp [hs] at hc; subst hc; exact .null
  | boolean hs => simp [hs] at hc; subst hc; exact .bool
  | long hs h =>
    obtain ⟨w, rfl, -⟩ := buildLong_inv h
    rcases hs with hs | hs <;> simp [hs] at hc <;> subst hc
    · exact .intI
    · exact .intL
  | float hs => simp [hs] at hc; subst hc; exact .float
  | double hs => simp [hs] at hc; subst hc; exact .double
  | f32double hs => simp [hs] at hc; subst hc; exact .f32double
  | bytes hs => simp [hs] at hc; subst hc; exact .bytes
  | string hs => simp [hs] at hc; subst hc; exact .string
  | recordAny hs ho hbf | record hs ho _ hbf | recordLib hs ho _ hbf =>
    simp [hs, ho] at hc
    split at hc <;> cases hc
    obtain ⟨h1, h2⟩ := ih.fields _ _ _ _ hbf _ _ _ ‹_›
    exact .record h1 h2
  | arrayAny hs ho hbi | array hs ho _ hbi =>
    simp [hs, ho] at hc
    split at hc <;> cases hc
    exact .array (ih.build _ _ _ _ hbi _ _ ‹_›)
  | mapAny hs ho hbi | map hs ho _ _ hbi =>
    simp [hs, ho] at hc
    split at hc <;> cases hc
    exact .map (ih.build _ _ _ _ hbi _ _ ‹_›)
  | union hs h =>
    simp [hs] at hc
    split at hc <;> cases hc
    exact ih.union _ _ _ _ h _ _ ‹_›
  | @fixed _ o hs ho =>
    simp [hs, ho] at hc
    obtain ⟨hsz, rfl⟩ := hc
    have hcast : o.size = ((o.size.toNat : Nat) : Int) := by omega
    rw [hcast]; exact .fixed

theorem buildOk_build (reg : Reg) (hreg : ∀ id, reg.custom id = none) (n : Nat) (ih : BuildOkAt reg n) :
    ∀ s typ oe c, buildCodec reg (n + 1) s typ oe = .ok c → ∀ fa a, classify fa s = some a → CodecFor c a := by
  intro s typ oe c hb fa a hc
  cases buildCodec_inv hb with
  | pointer h => exact .pointer (ih.build _ _ _ _ h _ _ hc)
  | registered hl h =>
    rcases regLookup_noCustom hreg hl with ⟨rfl, rfl⟩ | ⟨k, rfl, rfl⟩
    · exact buildTime_ok h hc
    · exact buildNull_ok h hc
  | kind h => exact ih.kind _ _ _ _ h _ _ hc

theorem classify_null_of {fa : Nat} {s : Schema} {a : ASchema} (h : classify fa s = some a) (hn : s.type = "null") : a = .null := by
  obtain ⟨fa', rfl⟩ := fuel_succ_of_some h rfl
  simp [classify, hn] at h; exact h.symm

theorem classify_string_of {fa : Nat} {s : Schema} {a : ASchema} (h : classify fa s = some a) (hn : s.type = "string") : a = .string := by
  obtain ⟨fa', rfl⟩ := fuel_succ_of_some h rfl
  simp [classify, hn] at h; exact h.symm

theorem buildOk_branches (reg : Reg) (n : Nat) (ih : BuildOkAt reg n) :
    ∀ bs typ oe cs, buildBranches reg (n + 1) bs typ oe = .ok cs → ∀ fa as, classifyBranches fa bs = some as →
    CodecsFor cs as := by
  intro bs typ oe cs hb fa as hc
  obtain ⟨fa', rfl⟩ := fuel_succ_of_some hc rfl
  rcases buildBranches_inv hb with ⟨rfl, rfl⟩ | ⟨b, bs, c', cs', rfl, rfl, hb1, hb2⟩
  · cases hc; exact .nil
  · simp only [classifyBranches] at hc
    split at hc <;> try (cases hc; done)
    rename_i a' as' hc1 hc2; cases hc
    exact .cons (ih.build _ _ _ _ hb1 _ _ hc1) (ih.branches _ _ _ _ hb2 _ _ hc2)

theorem buildOk_fields (reg : Reg) (n : Nat) (ih : BuildOkAt reg n) :
    ∀ sfs gfs cs ts, buildFields reg (n + 1) sfs gfs = .ok (cs, ts) → ∀ fa ns as, classifyFields fa sfs = some (ns, as) →
    CodecsFor cs as ∧ ts.length = cs.length := by
  intro sfs gfs cs ts hb fa ns as hc
  obtain ⟨fa', rfl⟩ := fuel_succ_of_some hc rfl
  cases sfs with
  | nil =>
    simp [buildFields] at hb; simp [classifyFields] at hc
    obtain ⟨rfl, rfl⟩ := hb; obtain ⟨rfl, rfl⟩ := hc; exact ⟨.nil, rfl⟩
  | cons sf sfs =>
    obtain ⟨m, c', cs', ts', hm, hb1, hb2, rfl, rfl⟩ := buildFields_cons_ok.mp hb
    cases hm
    simp only [classifyFields] at hc
    split at hc <;> try (cases hc; done)
    rename_i a' ns' as' hc1 hc2
    simp only [Option.some.injEq, Prod.mk.injEq] at hc
    obtain ⟨rfl, rfl⟩ := hc
    obtain ⟨h1, h2⟩ := ih.fields _ _ _ _ hb2 _ _ _ hc2
    refine ⟨.cons ?_ h1, by simp [h2]⟩
    unfold fieldBuild at hb1
    split at hb1 <;> exact ih.build _ _ _ _ hb1 _ _ hc1

theorem classifyBranches_pair {fa : Nat} {a b : Schema} {as : List ASchema} (h : classifyBranches fa [a, b] = some as) :
    ∃ f1 f2 aa ab, as = [aa, ab] ∧ classify f1 a = some aa ∧ classify f2 b = some ab := by
  rcases fa with _ | _ | _ | f <;> try (simp [classifyBranches] at h; done)
  simp only [classifyBranches] at h
  split at h <;> try (cases h; done)
  rename_i aa as1 ha hr; cases h
  split at hr <;> try (cases hr; done)
  rename_i ab as2 hb hr2; cases hr; cases hr2
  exact ⟨_, _, aa, ab, rfl, ha, hb⟩

theorem buildOk_union (reg : Reg) (n : Nat) (ih : BuildOkAt reg n) :
    ∀ bs typ oe c, buildUnion reg (n + 1) bs typ oe = .ok c → ∀ fa as, classifyBranches fa bs = some as →
    CodecFor c (.union as) := by
  intro bs typ oe c hb fa as hc
  cases buildUnion_inv hb with
  | general h => exact .union (ih.branches _ _ _ _ h _ _ hc)
  | nullString hn h =>
    rcases hn with ⟨a, rfl, ha, rfl⟩ | ⟨b, rfl, hb', rfl⟩ <;> obtain ⟨f1, f2, aa, ab, rfl, h1, h2⟩ := classifyBranches_pair hc
    · cases classify_null_of h1 ha
      have := ih.build _ _ _ _ h _ _ h2
      cases this; exact .unionNullString1
    · cases classify_null_of h2 hb'
      have := ih.build _ _ _ _ h _ _ h1
      cases this; exact .unionNullString0
  | one hn h =>
    rcases hn with ⟨a, rfl, ha, rfl⟩ | ⟨b, rfl, hb', rfl⟩ <;> obtain ⟨f1, f2, aa, ab, rfl, h1, h2⟩ := classifyBranches_pair hc
    · cases classify_null_of h1 ha
      exact .unionOne1 (ih.build _ _ _ _ h _ _ h2)
    · cases classify_null_of h2 hb'
      exact .unionOne0 (ih.build _ _ _ _ h _ _ h1)

theorem buildOkAt (reg : Reg) (hreg : ∀ id, reg.custom id = none) : ∀ n, BuildOkAt reg n := by
  intro n
  induction n with
  | zero => exact ⟨nofun, nofun, nofun, nofun, nofun⟩
  | succ n ih =>
    exact ⟨buildOk_build reg hreg n ih, buildOk_kind reg n ih, buildOk_union reg n ih, buildOk_branches reg n ih, buildOk_fields reg n ih⟩

end Avro
