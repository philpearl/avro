import AvroModel.Codec
/-! Lemmas about what `Codec.lean` defines beside the codecs: the `Outcome` monad, the read primitives, `listSet`. -/
namespace Avro

@[simp] theorem Outcome.bind_ok' {α β : Type} (a : α) (f : α → Outcome β) : Outcome.bind (.ok a) f = f a := rfl
@[simp] theorem Outcome.bind_err' {α β : Type} (f : α → Outcome β) : Outcome.bind (.err : Outcome α) f = .err := rfl
@[simp] theorem Outcome.bind_panic' {α β : Type} (f : α → Outcome β) : Outcome.bind (.panic : Outcome α) f = .panic := rfl
@[simp] theorem Outcome.bind_stuck' {α β : Type} (f : α → Outcome β) : Outcome.bind (.stuck : Outcome α) f = .stuck := rfl
@[simp] theorem Outcome.bind_fuel' {α β : Type} (f : α → Outcome β) : Outcome.bind (.fuel : Outcome α) f = .fuel := rfl

@[simp] theorem Outcome.bind_eq {α β : Type} (o : Outcome α) (f : α → Outcome β) : (o >>= f) = Outcome.bind o f := rfl
@[simp] theorem Outcome.pure_eq {α : Type} (a : α) : (pure a : Outcome α) = .ok a := rfl

theorem Outcome.bind_ne_panic {α β : Type} {o : Outcome α} {f : α → Outcome β}
    (h1 : o ≠ .panic) (h2 : ∀ a, o = .ok a → f a ≠ .panic) : Outcome.bind o f ≠ .panic := by
  cases o with
  | ok a => exact h2 a rfl
  | panic => exact absurd rfl h1
  | _ => nofun

theorem Outcome.bind_ne_fuel {α β : Type} {o : Outcome α} {f : α → Outcome β}
    (h1 : o ≠ .fuel) (h2 : ∀ a, o = .ok a → f a ≠ .fuel) : Outcome.bind o f ≠ .fuel := by
  cases o with
  | ok a => exact h2 a rfl
  | fuel => exact absurd rfl h1
  | _ => nofun

theorem Outcome.bind_ne_stuck {α β : Type} {o : Outcome α} {f : α → Outcome β}
    (h1 : o ≠ .stuck) (h2 : ∀ a, o = .ok a → f a ≠ .stuck) : Outcome.bind o f ≠ .stuck := by
  cases o with
  | ok a => exact h2 a rfl
  | stuck => exact absurd rfl h1
  | _ => nofun

theorem Outcome.bind_eq_ok {α β : Type} {o : Outcome α} {f : α → Outcome β} {b : β} :
    Outcome.bind o f = .ok b ↔ ∃ a, o = .ok a ∧ f a = .ok b := by
  cases o <;> simp [Outcome.bind]

def Outcome.IsOkOrErr {α : Type} (o : Outcome α) : Prop := (∃ a, o = .ok a) ∨ o = .err

theorem Outcome.IsOkOrErr.ne_panic {α : Type} {o : Outcome α} (h : o.IsOkOrErr) : o ≠ .panic := by
  rcases h with ⟨a, h⟩ | h <;> rw [h] <;> nofun
theorem Outcome.IsOkOrErr.ne_fuel {α : Type} {o : Outcome α} (h : o.IsOkOrErr) : o ≠ .fuel := by
  rcases h with ⟨a, h⟩ | h <;> rw [h] <;> nofun
theorem Outcome.IsOkOrErr.ne_stuck {α : Type} {o : Outcome α} (h : o.IsOkOrErr) : o ≠ .stuck := by
  rcases h with ⟨a, h⟩ | h <;> rw [h] <;> nofun

/-- `ReadBuf.Next` never panics: the guard `l < 0 || l > len(d.buf)-d.i` makes the slice expression safe. -/
theorem next_okOrErr (l : Int) (bs : Bytes) : (next l bs).IsOkOrErr := by
  unfold next
  split
  · exact .inr rfl
  · rw [if_pos (by omega)]; exact .inl ⟨_, rfl⟩

theorem rdVarint_okOrErr (bs : Bytes) : (rdVarint bs).IsOkOrErr := by
  unfold rdVarint; split
  · exact .inl ⟨_, rfl⟩
  · exact .inr rfl

theorem rdInt_okOrErr (w : Nat) (bs : Bytes) : (rdInt w bs).IsOkOrErr := by
  unfold rdInt; split
  · exact .inl ⟨_, rfl⟩
  · exact .inr rfl

theorem rdInt_eq_ok {w : Nat} {bs : Bytes} {p : Int × Bytes} (h : rdInt w bs = .ok p) :
    readVarint bs = .ok p ∧ inRange w p.1 := by
  unfold rdInt readInt at h
  split at h
  · rename_i q hq
    cases h
    split at hq
    · split at hq
      · cases hq; exact ⟨‹_›, ‹_›⟩
      · cases hq
    · cases hq
  · cases h

theorem next_eq_ok {l : Int} {bs : Bytes} {p : Bytes × Bytes} (h : next l bs = .ok p) :
    0 ≤ l ∧ l.toNat ≤ bs.length ∧ p = (bs.take l.toNat, bs.drop l.toNat) := by
  unfold next at h
  split at h
  · cases h
  · split at h
    · cases h; exact ⟨by omega, by omega, rfl⟩
    · cases h

theorem rdByte_okOrErr (bs : Bytes) : (rdByte bs).IsOkOrErr := by
  cases bs
  · exact .inr rfl
  · exact .inl ⟨_, rfl⟩

theorem listSet_eq_set {α} : ∀ (l : List α) (i : Nat) (a : α), listSet l i a = l.set i a
  | [], _, _ => rfl
  | _ :: _, 0, _ => rfl
  | x :: xs, i + 1, a => congrArg (x :: ·) (listSet_eq_set xs i a)

theorem listSet_length {α} (xs : List α) (i : Nat) (a : α) : (listSet xs i a).length = xs.length := by
  rw [listSet_eq_set, List.length_set]

theorem listSet_getElem?_ne {α : Type} (xs : List α) (i j : Nat) (a : α) (h : i ≠ j) : (listSet xs i a)[j]? = xs[j]? := by
  rw [listSet_eq_set, List.getElem?_set_ne h]

theorem listSet_getElem?_eq {α : Type} (xs : List α) (i : Nat) (a b : α) (h : xs[i]? = some b) :
    (listSet xs i a)[i]? = some a := by
  rw [listSet_eq_set, List.getElem?_set_self (List.getElem?_eq_some_iff.mp h).1]

theorem listSet_take {α : Type} (acc : List α) (i : Nat) (a : α) (h : i < acc.length) :
    (listSet acc i a).take (i + 1) = acc.take i ++ [a] := by
  rw [listSet_eq_set, List.take_set, List.take_succ_eq_append_getElem h,
    List.set_append_right _ _ (by rw [List.length_take]; omega), List.length_take, Nat.min_eq_left (Nat.le_of_lt h),
    Nat.sub_self, List.set_cons_zero]

end Avro
