import AvroModel.Conc
/-! Lemmas about the interleaving semantics of `AvroModel/Conc.lean`: the discipline excludes races, steps
preserve the invariant, independent steps commute, fact rows are checked programs. -/
namespace Avro.Conc

section Sem
variable {M V : Type}

theorem holds_ex_iff {σ : St M V} {t : Tid} {m : M} : holds σ t m = some .ex ↔ (σ.locks m).writer = some t := by
  unfold holds; split
  · simp [*]
  · split <;> simp [*]

theorem excl_excludes {σ : St M V} {t u : Tid} {m : M} (hl : LockOK σ) (ht : holds σ t m = some .ex) (hne : t ≠ u) :
    holds σ u m = none := by
  have hw := holds_ex_iff.mp ht
  simp [holds, hw, hl m t hw, hne]

/-- Isolation of a held mutex: another thread that respects the discipline is not about to write a variable of `m`
while `t` holds `m`, nor to read one while `t` holds it exclusively. -/
theorem isolated {L : V → Option M} {σ : St M V} (hd : Disciplined L σ) (hl : LockOK σ) {t u : Tid} {m : M} {md : Mode}
    (ht : holds σ t m = some md) (hne : t ≠ u) {a : Act M V} (hn : next σ u = some a) :
    (∀ x v, a = .wr x v → L x ≠ some m) ∧ (md = .ex → ∀ x, a = .rd x → L x ≠ some m) := by
  have hd := hd u a hn
  constructor
  · intro x v ha hL
    obtain ⟨m', hm', hex⟩ := hd.1 x v ha
    obtain rfl : m = m' := Option.some.inj (hL.symm.trans hm')
    rw [excl_excludes hl hex (Ne.symm hne)] at ht; cases ht
  · rintro rfl x ha hL
    exact hd.2 x ha m hL (excl_excludes hl ht hne)

/-- A race has a writer, who holds the variable's mutex exclusively: the other access is excluded by `isolated`. -/
theorem no_race_of_disciplined {L : V → Option M} {σ : St M V} (hd : Disciplined L σ) (hl : LockOK σ) : ¬ Race σ := by
  rintro ⟨t, u, a, b, hne, ha, hb, hc⟩
  cases a <;> cases b <;> simp only [conflicts] at hc <;> subst hc
  case wr.wr x v w =>
    obtain ⟨m, hm, hex⟩ := (hd t _ ha).1 x v rfl
    exact (isolated hd hl hex hne hb).1 x w rfl hm
  case wr.rd x v =>
    obtain ⟨m, hm, hex⟩ := (hd t _ ha).1 x v rfl
    exact (isolated hd hl hex hne hb).2 rfl x rfl hm
  case rd.wr x w =>
    obtain ⟨m, hm, hex⟩ := (hd u _ hb).1 x w rfl
    exact (isolated hd hl hex hne.symm ha).2 rfl x rfl hm

variable [DecidableEq M]

theorem checked_cons {L : V → Option M} {h : M → Option Mode} {a : Act M V} {p : List (Act M V)}
    (hc : Checked L h (a :: p)) : ∃ h', stepHeld L h a = some h' ∧ Checked L h' p := by
  unfold Checked run at hc
  cases hs : stepHeld L h a with
  | none => simp [hs] at hc
  | some h' => exact ⟨h', rfl, by simpa [hs, Checked] using hc⟩

theorem stepHeld_acq {L : V → Option M} {h h' : M → Option Mode} {m : M} {md : Mode} :
    stepHeld L h (.acq m md) = some h' ↔ h m = none ∧ h' = upd h m (some md) := by
  simp only [stepHeld]; by_cases hm : h m = none <;> simp [hm, eq_comm]

theorem stepHeld_rel {L : V → Option M} {h h' : M → Option Mode} {m : M} :
    stepHeld L h (.rel m : Act M V) = some h' ↔ h m ≠ none ∧ h' = upd h m none := by
  simp only [stepHeld]; by_cases hm : h m = none <;> simp [hm, eq_comm]

theorem stepHeld_rd {L : V → Option M} {h h' : M → Option Mode} {x : V} :
    stepHeld L h (.rd x : Act M V) = some h' ↔ h' = h ∧ ∀ m, L x = some m → h m ≠ none := by
  simp only [stepHeld]
  cases L x with
  | none => simp [eq_comm]
  | some m => by_cases hm : h m = none <;> simp [hm, eq_comm]

theorem stepHeld_wr {L : V → Option M} {h h' : M → Option Mode} {x : V} {v : Nat} :
    stepHeld L h (.wr x v : Act M V) = some h' ↔ h' = h ∧ ∃ m, L x = some m ∧ h m = some .ex := by
  simp only [stepHeld]
  cases L x with
  | none => simp
  | some m => by_cases hm : h m = some .ex <;> simp [hm, eq_comm]

theorem inv_disciplined {L : V → Option M} {σ : St M V} (hi : Inv L σ) : Disciplined L σ := by
  intro t a hn
  obtain ⟨rest, hp⟩ := List.head?_eq_some_iff.mp hn
  obtain ⟨h', hst, -⟩ := checked_cons (hp ▸ hi.checked t)
  exact ⟨fun x v ha => (stepHeld_wr.mp (ha ▸ hst)).2, fun x ha => (stepHeld_rd.mp (ha ▸ hst)).2⟩

theorem Inv.no_race {L : V → Option M} {σ : St M V} (hi : Inv L σ) : ¬ Race σ :=
  no_race_of_disciplined (inv_disciplined hi) hi.lockOK

theorem Inv.no_conflict {L : V → Option M} {σ : St M V} (hi : Inv L σ) {t u : Tid} {a b : Act M V}
    {r r' : List (Act M V)} (hne : t ≠ u) (hpa : σ.prog t = a :: r) (hpb : σ.prog u = b :: r') :
    ¬ conflicts a b := fun hc =>
  hi.no_race ⟨t, u, a, b, hne, by simp [next, hpa], by simp [next, hpb], hc⟩

theorem run_append {L : V → Option M} (h : M → Option Mode) (p q : List (Act M V)) :
    run L h (p ++ q) = (run L h p).bind fun h' => run L h' q := by
  induction p generalizing h with
  | nil => simp [run]
  | cons a p ih =>
    simp only [List.cons_append, run]
    cases stepHeld L h a with
    | none => simp
    | some h' => simp [ih]

def LockSt.acq (s : LockSt) (t : Tid) : Mode → LockSt
  | .ex => ⟨some t, []⟩
  | .sh => ⟨none, t :: s.readers⟩

def LockSt.rel (s : LockSt) (t : Tid) : LockSt :=
  if s.writer = some t then ⟨none, s.readers⟩ else ⟨s.writer, s.readers.erase t⟩

/-- The mode in which `t` holds a mutex in state `s` (`holds σ t m = (σ.locks m).mode t` by `rfl`). -/
def LockSt.mode (s : LockSt) (t : Tid) : Option Mode :=
  if s.writer = some t then some .ex else if t ∈ s.readers then some .sh else none

structure LockSt.Good (s : LockSt) : Prop where
  excl : ∀ t, s.writer = some t → s.readers = []
  nodup : s.readers.Nodup

/-- What one step does to one mutex: it stays consistent, the mover's mode becomes `o`, nobody else's changes. -/
def LockSt.Tracks (s s' : LockSt) (t : Tid) (o : Option Mode) : Prop :=
  s'.Good ∧ s'.mode t = o ∧ ∀ u, u ≠ t → s'.mode u = s.mode u

theorem LockSt.acq_tracks {s : LockSt} {t : Tid} {md : Mode} (hg : s.Good) (hw : s.writer = none)
    (hr : md = .ex → s.readers = []) (hfree : s.mode t = none) : s.Tracks (s.acq t md) t (some md) := by
  have hnot : t ∉ s.readers := fun hm => by simp [LockSt.mode, hw, hm] at hfree
  cases md with
  | ex =>
    refine ⟨⟨fun _ _ => rfl, .nil⟩, by simp [LockSt.mode, LockSt.acq], fun u hu => ?_⟩
    simp [LockSt.mode, LockSt.acq, hw, hr rfl, Ne.symm hu]
  | sh =>
    refine ⟨⟨(fun _ h => nomatch h), List.nodup_cons.mpr ⟨hnot, hg.nodup⟩⟩, by simp [LockSt.mode, LockSt.acq],
      fun u hu => ?_⟩
    simp [LockSt.mode, LockSt.acq, hw, hu]

theorem LockSt.rel_tracks {s : LockSt} {t : Tid} (hg : s.Good) : s.Tracks (s.rel t) t none := by
  unfold LockSt.rel
  split
  · rename_i hw
    have hr := hg.excl t hw
    refine ⟨⟨(fun _ h => nomatch h), hg.nodup⟩, by simp [LockSt.mode, hr], fun u hu => ?_⟩
    simp [LockSt.mode, hw, hr, Ne.symm hu]
  · rename_i hw
    have hnd : t ∉ s.readers.erase t := fun hm => (hg.nodup.mem_erase_iff.mp hm).1 rfl
    refine ⟨⟨fun u h => by rw [hg.excl u h]; rfl, hg.nodup.erase t⟩, by simp [LockSt.mode, hw, hnd], fun u hu => ?_⟩
    simp [LockSt.mode, List.mem_erase_of_ne hu]

theorem Inv.good {L : V → Option M} {σ : St M V} (hi : Inv L σ) (m : M) : (σ.locks m).Good :=
  ⟨hi.lockOK m, hi.nodup m⟩

theorem inv_init {L : V → Option M} (progs : Tid → List (Act M V)) (mem : V → Nat)
    (hc : ∀ t, Checked L (fun _ => none) (progs t)) : Inv L (init progs mem) := by
  refine ⟨?_, ?_, ?_⟩
  · intro m t hw; simp [init, LockSt.free] at hw
  · intro m; simp [init, LockSt.free]
  · intro t
    have : holds (init progs mem) t = fun _ => none := by
      funext m; simp [holds, init, LockSt.free]
    rw [this]; exact hc t

/-! ## `Step` as a function of the head action -/

variable [DecidableEq V]

def Act.isLockOp : Act M V → Bool
  | .acq _ _ => true
  | .rel _ => true
  | _ => false

theorem step_of_eq {σ σ' σ'' : St M V} {t : Tid} (h : Step σ t σ') (e : σ' = σ'') : Step σ t σ'' := e ▸ h

theorem upd_comm {α β : Type} [DecidableEq α] (f : α → β) {a a' : α} (b b' : β) (h : a ≠ a') :
    upd (upd f a b) a' b' = upd (upd f a' b') a b := by
  funext x; simp only [upd]
  by_cases h1 : x = a'
  · have h2 : x ≠ a := fun e => h (e.symm.trans h1)
    simp only [if_pos h1, if_neg h2]
  · simp only [if_neg h1]

/-- `t` may perform `a` under lock table `l`. -/
def En (l : M → LockSt) (t : Tid) : Act M V → Prop
  | .acq m .ex => (l m).writer = none ∧ (l m).readers = []
  | .acq m .sh => (l m).writer = none
  | .rel m => (l m).writer = some t ∨ t ∈ (l m).readers
  | _ => True

def lockEff (l : M → LockSt) (t : Tid) : Act M V → M → LockSt
  | .acq m md => upd l m ((l m).acq t md)
  | .rel m => upd l m ((l m).rel t)
  | _ => l

def memEff (mem : V → Nat) : Act M V → V → Nat
  | .wr x v => upd mem x v
  | _ => mem

def seenEff (mem : V → Nat) (seen : Tid → List Nat) (t : Tid) : Act M V → Tid → List Nat
  | .rd x => upd seen t (mem x :: seen t)
  | _ => seen

def St.after (σ : St M V) (t : Tid) (a : Act M V) (rest : List (Act M V)) : St M V :=
  ⟨upd σ.prog t rest, lockEff σ.locks t a, memEff σ.mem a, seenEff σ.mem σ.seen t a⟩

/-- `Step` is the graph of `St.after` on enabled head actions. -/
theorem step_iff {σ σ' : St M V} {t : Tid} :
    Step σ t σ' ↔ ∃ a rest, σ.prog t = a :: rest ∧ En σ.locks t a ∧ σ' = σ.after t a rest := by
  constructor
  · intro h
    cases h with
    | acqEx hp hw hr => exact ⟨_, _, hp, ⟨hw, hr⟩, rfl⟩
    | acqSh hp hw => exact ⟨_, _, hp, hw, rfl⟩
    | relEx hp hw => exact ⟨_, _, hp, .inl hw, by simp only [St.after, lockEff, LockSt.rel, if_pos hw]; rfl⟩
    | relSh hp hw hr => exact ⟨_, _, hp, .inr hr, by simp only [St.after, lockEff, LockSt.rel, if_neg hw]; rfl⟩
    | rd hp => exact ⟨_, _, hp, trivial, rfl⟩
    | wr hp => exact ⟨_, _, hp, trivial, rfl⟩
    | atomicOp hp => exact ⟨_, _, hp, trivial, rfl⟩
    | localStep hp => exact ⟨_, _, hp, trivial, rfl⟩
  · rintro ⟨a, rest, hp, he, rfl⟩
    cases a with
    | acq m md => cases md with
      | ex => exact .acqEx hp he.1 he.2
      | sh => exact .acqSh hp he
    | rel m =>
      by_cases hw : (σ.locks m).writer = some t
      · exact step_of_eq (.relEx hp hw) (by simp only [St.after, lockEff, LockSt.rel, if_pos hw]; rfl)
      · exact step_of_eq (.relSh hp hw (he.resolve_left hw)) (by simp only [St.after, lockEff, LockSt.rel, if_neg hw]; rfl)
    | rd x => exact .rd hp
    | wr x v => exact .wr hp
    | atomicOp => exact .atomicOp hp
    | localStep => exact .localStep hp

theorem step_preserves_lockOK {σ σ' : St M V} {t : Tid} (hs : Step σ t σ') (hl : LockOK σ) : LockOK σ' := by
  obtain ⟨a, r, -, -, rfl⟩ := step_iff.mp hs
  intro m u
  cases a with
  | acq m0 md =>
    by_cases hm : m = m0
    · subst hm; cases md <;> simp [St.after, lockEff, LockSt.acq]
    · simp only [St.after, lockEff, upd_other hm]; exact hl m u
  | rel m0 =>
    by_cases hm : m = m0
    · subst hm
      simp only [St.after, lockEff, upd_same, LockSt.rel]
      split
      · simp
      · intro hw; rw [hl m u hw]; rfl
    · simp only [St.after, lockEff, upd_other hm]; exact hl m u
  | _ => exact hl m u

/-! ## The invariant, one mutex at a time -/

omit [DecidableEq V] in
/-- The static lock set of `stepHeld` follows the real one, mutex by mutex. -/
theorem lockEff_tracks {L : V → Option M} {σ : St M V} (hi : Inv L σ) {t : Tid} {a : Act M V}
    {h' : M → Option Mode} (he : En σ.locks t a) (hst : stepHeld L (holds σ t) a = some h') (m : M) :
    (σ.locks m).Tracks (lockEff σ.locks t a m) t (h' m) := by
  have hsame : (σ.locks m).Tracks (σ.locks m) t (holds σ t m) := ⟨hi.good m, rfl, fun _ _ => rfl⟩
  cases a with
  | acq m0 md =>
    obtain ⟨hfree, rfl⟩ := stepHeld_acq.mp hst
    by_cases hm : m = m0
    · subst hm
      simp only [lockEff, upd_same]
      cases md with
      | ex => exact LockSt.acq_tracks (hi.good m) he.1 (fun _ => he.2) hfree
      | sh => exact LockSt.acq_tracks (hi.good m) he (fun h => nomatch h) hfree
    · simp only [lockEff, upd_other hm]; exact hsame
  | rel m0 =>
    obtain ⟨-, rfl⟩ := stepHeld_rel.mp hst
    by_cases hm : m = m0
    · subst hm; simp only [lockEff, upd_same]; exact LockSt.rel_tracks (hi.good m)
    · simp only [lockEff, upd_other hm]; exact hsame
  | rd x => rw [(stepHeld_rd.mp hst).1]; exact hsame
  | wr x v => rw [(stepHeld_wr.mp hst).1]; exact hsame
  | atomicOp => cases hst; exact hsame
  | localStep => cases hst; exact hsame

theorem step_preserves_inv {L : V → Option M} {σ σ' : St M V} {t : Tid} (hs : Step σ t σ') (hi : Inv L σ) :
    Inv L σ' := by
  obtain ⟨a, r, hp, he, rfl⟩ := step_iff.mp hs
  obtain ⟨h', hst, hrest⟩ := checked_cons (hp ▸ hi.checked t)
  have htr := lockEff_tracks hi he hst
  refine ⟨fun m => (htr m).1.excl, fun m => (htr m).1.nodup, fun u => ?_⟩
  by_cases hu : u = t
  · subst hu
    have : holds (σ.after u a r) u = h' := funext fun m => (htr m).2.1
    rw [this]; simpa [St.after] using hrest
  · have : holds (σ.after t a r) u = holds σ u := funext fun m => (htr m).2.2 u hu
    rw [this]; simpa [St.after, upd_other hu] using hi.checked u

theorem reachable_inv {L : V → Option M} {progs : Tid → List (Act M V)} {mem : V → Nat}
    (hc : ∀ t, Checked L (fun _ => none) (progs t)) {σ : St M V} (hr : Reachable (init progs mem) σ) : Inv L σ := by
  induction hr with
  | refl => exact inv_init progs mem hc
  | step _ hs ih => exact step_preserves_inv hs ih

theorem rel_enabled {L : V → Option M} {σ : St M V} (hi : Inv L σ) {t : Tid} {m : M} {rest : List (Act M V)}
    (hp : σ.prog t = .rel m :: rest) : ∃ σ', Step σ t σ' := by
  obtain ⟨h', hst, -⟩ := checked_cons (hp ▸ hi.checked t)
  have hne := (stepHeld_rel.mp hst).1
  refine ⟨_, step_iff.mpr ⟨_, _, hp, ?_, rfl⟩⟩
  by_cases hw : (σ.locks m).writer = some t
  · exact .inl hw
  · exact .inr (Decidable.byContradiction fun hnot => hne (by simp [holds, hw, hnot]))

omit [DecidableEq V] in
theorem lockfree_locks {a : Act M V} (h : a.isLockOp = false) (l : M → LockSt) (t : Tid) :
    En l t a ∧ lockEff l t a = l := by
  cases a with
  | acq | rel => cases h
  | _ => exact ⟨trivial, rfl⟩

omit [DecidableEq M] in
theorem memEff_comm {a b : Act M V} (h : ¬ conflicts a b) (mem : V → Nat) :
    memEff (memEff mem a) b = memEff (memEff mem b) a := by
  cases a with
  | wr x v => cases b with
    | wr y w => exact upd_comm mem v w h
    | _ => rfl
  | _ => rfl

omit [DecidableEq M] in
theorem seenEff_comm {a b : Act M V} {t u : Tid} (hne : t ≠ u) (h : ¬ conflicts a b) (mem : V → Nat)
    (seen : Tid → List Nat) :
    seenEff (memEff mem a) (seenEff mem seen t a) u b = seenEff (memEff mem b) (seenEff mem seen u b) t a := by
  cases a with
  | rd x => cases b with
    | rd y =>
      simp only [seenEff, memEff, upd_other hne, upd_other hne.symm]; exact upd_comm seen _ _ hne
    | wr y w => simp only [seenEff, memEff, upd_other (show x ≠ y from h)]
    | _ => rfl
  | wr x v => cases b with
    | rd y => simp only [seenEff, memEff, upd_other (show y ≠ x from Ne.symm h)]
    | _ => rfl
  | _ => rfl

theorem after_comm {σ : St M V} {t u : Tid} {a b : Act M V} (r r' : List (Act M V)) (hne : t ≠ u)
    (hlf : a.isLockOp = false) (hnc : ¬ conflicts a b) :
    (σ.after t a r).after u b r' = (σ.after u b r').after t a r := by
  simp only [St.after, (lockfree_locks hlf _ t).2, memEff_comm hnc, seenEff_comm hne hnc,
    upd_comm σ.prog r r' hne]

/-- **Independent steps commute.** From any state, a lock-free head action of `t` and an enabled,
non-conflicting head action of another thread `u` can be taken in either order, and the two orders meet. -/
theorem lockfree_diamond {σ : St M V} {t u : Tid} {a b : Act M V} {r r' : List (Act M V)}
    (hne : t ≠ u) (hpa : σ.prog t = a :: r) (hpb : σ.prog u = b :: r')
    (hlf : a.isLockOp = false) (hen : En σ.locks u b) (hnc : ¬ conflicts a b) :
    Step σ t (σ.after t a r) ∧ Step (σ.after t a r) u ((σ.after t a r).after u b r') ∧
    Step σ u (σ.after u b r') ∧ Step (σ.after u b r') t ((σ.after t a r).after u b r') := by
  refine ⟨step_iff.mpr ⟨a, r, hpa, (lockfree_locks hlf _ t).1, rfl⟩,
    step_iff.mpr ⟨b, r', ?_, ?_, rfl⟩, step_iff.mpr ⟨b, r', hpb, hen, rfl⟩,
    step_iff.mpr ⟨a, r, ?_, (lockfree_locks hlf _ t).1, after_comm r r' hne hlf hnc⟩⟩
  · exact (upd_other hne.symm).trans hpb
  · show En (lockEff σ.locks t a) u b
    rw [(lockfree_locks hlf σ.locks t).2]; exact hen
  · exact (upd_other hne).trans hpa

/-- No independence hypothesis is needed: the invariant excludes the conflicting cases (`Inv.no_conflict`). -/
theorem lockfree_right_mover {L : V → Option M} {σ σ₁ σ₂ : St M V} {t u : Tid} (hi : Inv L σ) (hne : t ≠ u)
    (h1 : Step σ t σ₁) (h2 : Step σ₁ u σ₂) (hfree : ∀ a, next σ t = some a → a.isLockOp = false) :
    ∃ σ₁', Step σ u σ₁' ∧ Step σ₁' t σ₂ := by
  obtain ⟨a, r, hpa, -, rfl⟩ := step_iff.mp h1
  obtain ⟨b, r', hpb, hen, rfl⟩ := step_iff.mp h2
  have hpb : σ.prog u = b :: r' := (upd_other hne.symm).symm.trans hpb
  have hlf := hfree a (by simp [next, hpa])
  have hen : En σ.locks u b := (lockfree_locks hlf σ.locks t).2 ▸ hen
  obtain ⟨-, -, hu, ht⟩ := lockfree_diamond hne hpa hpb hlf hen (hi.no_conflict hne hpa hpb)
  exact ⟨_, hu, ht⟩

theorem lockfree_left_mover {L : V → Option M} {σ σ₁ σ₂ : St M V} {t u : Tid} (hi : Inv L σ) (hne : t ≠ u)
    (h1 : Step σ u σ₁) (h2 : Step σ₁ t σ₂) (hfree : ∀ a, next σ t = some a → a.isLockOp = false) :
    ∃ σ₁', Step σ t σ₁' ∧ Step σ₁' u σ₂ := by
  obtain ⟨b, r', hpb, hen, rfl⟩ := step_iff.mp h1
  obtain ⟨a, r, hpa, -, rfl⟩ := step_iff.mp h2
  have hpa : σ.prog t = a :: r := (upd_other hne).symm.trans hpa
  have hlf := hfree a (by simp [next, hpa])
  have hnc := hi.no_conflict hne hpa hpb
  obtain ⟨ht, hu, -, -⟩ := lockfree_diamond hne hpa hpb hlf hen hnc
  exact ⟨_, ht, after_comm r r' hne hlf hnc ▸ hu⟩

/-- A finite sequence of steps, none of them by thread `t`. -/
inductive OtherSteps (t : Tid) : St M V → St M V → Prop
  | refl {σ : St M V} : OtherSteps t σ σ
  | step {σ σ' σ'' : St M V} {u : Tid} : u ≠ t → Step σ u σ' → OtherSteps t σ' σ'' → OtherSteps t σ σ''

theorem step_next_other {σ σ' : St M V} {t u : Tid} (hs : Step σ u σ') (hne : t ≠ u) : next σ' t = next σ t := by
  obtain ⟨a, r, -, -, rfl⟩ := step_iff.mp hs
  simp [next, St.after, upd_other hne]

/-- `lockfree_right_mover`, iterated along `OtherSteps`. -/
theorem lockfree_step_delays {L : V → Option M} {σ σ₁ σ₂ : St M V} {t : Tid} (hi : Inv L σ)
    (h1 : Step σ t σ₁) (hs : OtherSteps t σ₁ σ₂) (hfree : ∀ a, next σ t = some a → a.isLockOp = false) :
    ∃ σ', OtherSteps t σ σ' ∧ Step σ' t σ₂ := by
  induction hs generalizing σ with
  | refl => exact ⟨σ, .refl, h1⟩
  | step hne hu _ ih =>
    obtain ⟨σa, hua, hta⟩ := lockfree_right_mover hi (Ne.symm hne) h1 hu hfree
    obtain ⟨σ', ho, ht⟩ := ih (step_preserves_inv hua hi) hta (step_next_other hua (Ne.symm hne) ▸ hfree)
    exact ⟨σ', .step hne hua ho, ht⟩

/-- `lockfree_left_mover`, iterated along `OtherSteps`. -/
theorem lockfree_step_advances {L : V → Option M} {σ σ₁ σ₂ : St M V} {t : Tid} (hi : Inv L σ)
    (hs : OtherSteps t σ σ₁) (h2 : Step σ₁ t σ₂) (hfree : ∀ a, next σ t = some a → a.isLockOp = false) :
    ∃ σ', Step σ t σ' ∧ OtherSteps t σ' σ₂ := by
  induction hs with
  | refl => exact ⟨_, h2, .refl⟩
  | step hne hu _ ih =>
    obtain ⟨σb, htb, hob⟩ := ih (step_preserves_inv hu hi) h2 (step_next_other hu (Ne.symm hne) ▸ hfree)
    obtain ⟨σc, htc, huc⟩ := lockfree_left_mover hi (Ne.symm hne) hu htb hfree
    exact ⟨σc, htc, .step hne huc hob⟩

end Sem

/-- A body that passes the static check from every lock set holding the locks `hs` in their recorded modes, and
ends holding the same, passes it when bracketed by the acquisitions and releases of `hs`, from a lock set that
holds none of them. -/
theorem bracket_run {L : String → Option String} {body : List (Act String String)} :
    ∀ {hs : List HeldLock} {base : String → Option Mode},
      (∀ h ∈ hs, base h.mutex = none) → (hs.map (·.mutex)).Nodup →
      (∀ h', (∀ l ∈ hs, h' l.mutex = some (modeOf l)) → (∀ m, m ∉ hs.map (·.mutex) → h' m = base m) →
        run L h' body = some h') →
      run L base (bracket hs body) = some base := by
  intro hs
  induction hs with
  | nil => intro base _ _ hb; exact hb base (fun _ h => nomatch h) (fun _ _ => rfl)
  | cons a hs ih =>
    intro base hfree hnd hb
    simp only [List.map_cons, List.nodup_cons] at hnd
    have ha : base a.mutex = none := hfree a (List.mem_cons_self ..)
    have hne : ∀ h ∈ hs, h.mutex ≠ a.mutex := fun h hh e => hnd.1 (e ▸ List.mem_map_of_mem (f := (·.mutex)) hh)
    -- inside the outermost pair the lock set is `base` with `a` added
    have hih : run L (upd base a.mutex (some (modeOf a))) (bracket hs body) = some (upd base a.mutex (some (modeOf a))) := by
      refine ih (fun h hh => (upd_other (hne h hh)).trans (hfree h (List.mem_cons_of_mem _ hh))) hnd.2
        fun h' hin hout => hb h' (List.forall_mem_cons.mpr ⟨(hout _ hnd.1).trans (upd_same ..), hin⟩) fun m hm => ?_
      simp only [List.map_cons, List.mem_cons, not_or] at hm
      exact (hout m hm.2).trans (upd_other hm.1)
    have hback : upd (upd base a.mutex (some (modeOf a))) a.mutex none = base := by
      funext x
      by_cases hx : x = a.mutex
      · subst hx; simp [ha]
      · simp [upd_other hx]
    show run L base (.acq a.mutex (modeOf a) :: (bracket hs body ++ [.rel a.mutex])) = some base
    simp only [run, stepHeld, ha, if_true, Option.bind_some]
    rw [run_append, hih]
    simp [run, stepHeld, hback]

theorem accessOK_held {m : String} {a : Access} (h : accessOK m a = true) :
    ∃ hl ∈ a.held, hl.mutex = m ∧ (a.write = true → hl.excl = true) := by
  simp only [accessOK, List.any_eq_true, Bool.and_eq_true, Bool.or_eq_true, beq_iff_eq] at h
  obtain ⟨hl, hmem, hm, hx⟩ := h
  refine ⟨hl, hmem, hm, ?_⟩
  intro hw
  rcases hx with hx | hx
  · exact hx
  · simp [hw] at hx

theorem lockOf_some {f : LockFacts} {x m : String} (h : lockOf f x = some m) :
    ∀ a ∈ liveAccesses f x, accessOK m a = true := by
  unfold lockOf at h
  split at h
  · have := List.find?_some h
    simpa [List.all_eq_true] using this
  · cases h

theorem guarded_access {f : LockFacts} (hg : Guarded f = true) {a : Access} (ha : a ∈ f.accesses)
    (hi : a.atInit = false) :
    (a.held.map (·.mutex)).Nodup ∧ (a.syncCall = false →
      (a.write = true → ∃ m, lockOf f a.var = some m ∧ ∃ h ∈ a.held, h.mutex = m ∧ h.excl = true) ∧
      (∀ m, lockOf f a.var = some m → ∃ h ∈ a.held, h.mutex = m)) := by
  have hlive : a ∈ liveAccesses f a.var := by simp [liveAccesses, List.mem_filter, ha, hi]
  simp only [Guarded, Bool.and_eq_true, List.all_eq_true] at hg
  have hrow := hg.2 a ha
  simp only [rowOK, Bool.and_eq_true, List.any_eq_true, beq_iff_eq, decide_eq_true_eq] at hrow
  obtain ⟨⟨v, hv, hname⟩, hnd⟩ := hrow
  refine ⟨hnd, fun hs => ⟨fun hw => ?_, fun m hm => ?_⟩⟩
  · have hvar := hg.1 v hv
    simp only [varOK, hname] at hvar
    split at hvar
    · have := (List.all_eq_true.mp hvar) a hlive
      rw [hs] at this; cases this
    · simp only [Bool.and_eq_true, Bool.or_eq_true] at hvar
      have hany : (liveAccesses f a.var).any (·.write) = true := List.any_eq_true.mpr ⟨a, hlive, hw⟩
      have hsome : (lockOf f a.var).isSome = true := by
        rcases hvar.2 with h | h
        · rw [hany] at h; cases h
        · exact h
      obtain ⟨m, hm⟩ := Option.isSome_iff_exists.mp hsome
      obtain ⟨hl, hmem, hlm, hex⟩ := accessOK_held (lockOf_some hm a hlive)
      exact ⟨m, hm, hl, hmem, hlm, hex hw⟩
  · obtain ⟨hl, hmem, hlm, _⟩ := accessOK_held (lockOf_some hm a hlive)
    exact ⟨hl, hmem, hlm⟩

/-- One fact row, executed from a thread holding nothing, respects the discipline and ends holding nothing. -/
theorem row_checked {f : LockFacts} (hg : Guarded f = true) {a : Access} (ha : a ∈ f.accesses)
    (hi : a.atInit = false) (val : Nat) :
    run (lockOf f) (fun _ => none) (bracket a.held [accessAct a val]) = some (fun _ => none) := by
  obtain ⟨hnd, hrow⟩ := guarded_access hg ha hi
  refine bracket_run (fun _ _ => rfl) hnd fun h' hheld _ => ?_
  cases hs : a.syncCall with
  | true => simp [accessAct, hs, run, stepHeld]
  | false =>
    obtain ⟨hwr, hrd⟩ := hrow hs
    cases hw : a.write with
    | true =>
      obtain ⟨m, hm, hl, hmem, rfl, hex⟩ := hwr hw
      simp [accessAct, hs, hw, run, stepHeld, hm, hheld hl hmem, modeOf, hex]
    | false =>
      cases hm : lockOf f a.var with
      | none => simp [accessAct, hs, hw, run, stepHeld, hm]
      | some m =>
        obtain ⟨hl, hmem, rfl⟩ := hrd m hm
        simp [accessAct, hs, hw, run, stepHeld, hm, hheld hl hmem]

theorem fromFacts_checked {f : LockFacts} (hg : Guarded f = true) {p : List (Act String String)}
    (hp : FromFacts f p) : run (lockOf f) (fun _ => none) p = some (fun _ => none) := by
  induction hp with
  | nil => rfl
  | op a val rest ha hi _ ih => rw [run_append, row_checked hg ha hi val]; exact ih
  | localStep rest _ ih => simpa [run, stepHeld] using ih

end Avro.Conc
