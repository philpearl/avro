import AvroModel.Build
/-!
The builders of `build.go` inverted, each once: what a successful `buildCodec`, `buildKind`, `buildUnion`, `buildLong`,
`buildTime` or `buildNull` says about the arm taken, the kind of the target, the sub-constructions and the codec; and
what `lookupField` finds.  Proofs that a given schema does build, or that two constructions agree, still unfold the
builders.
-/
namespace Avro

theorem buildLong_inv {k : Option GoType} {oe : Bool} {c : Codec} (h : buildLong k oe = .ok c) :
    ∃ w, c = .int w oe ∧ (w = 16 ∨ w = 32 ∨ w = 64) ∧ ∀ K, k = some K → K = .int w ∨ ∃ id, K = .custom id (.int w) := by
  unfold buildLong at h
  split at h <;> cases h
  all_goals refine ⟨_, rfl, by decide, fun K hK => ?_⟩
  case h_1 => cases hK
  all_goals (cases hK; first | exact .inl rfl | exact .inr ⟨_, rfl⟩)

theorem buildTime_inv {s : Schema} {c : Codec} (h : buildTime s = .ok c) :
    (s.type = "string" ∧ c = .timeString) ∨ (s.type = "long" ∧ ∃ m, c = .timeLong m) ∨ (s.type = "int" ∧ c = .date) := by
  unfold buildTime at h
  by_cases h1 : (s.type == "string") = true
  · rw [if_pos h1] at h; cases h; exact .inl ⟨eq_of_beq h1, rfl⟩
  rw [if_neg h1] at h
  by_cases h2 : (s.type == "long") = true
  · rw [if_pos h2] at h; cases h; exact .inr (.inl ⟨eq_of_beq h2, _, rfl⟩)
  rw [if_neg h2] at h
  by_cases h3 : (s.type == "int") = true
  · rw [if_pos h3] at h
    split at h
    · split at h <;> cases h
      exact .inr (.inr ⟨eq_of_beq h3, rfl⟩)
    · cases h
  · rw [if_neg h3] at h; cases h

theorem buildNull_inv {k : NullKind} {s : Schema} {c : Codec} (h : buildNull k s = .ok c) :
    (k = .int ∧ (s.type = "long" ∨ s.type = "int") ∧ c = .nullw .int) ∨
    (k = .bool ∧ s.type = "boolean" ∧ c = .nullw .bool) ∨
    ((k = .double ∨ k = .float) ∧ s.type = "double" ∧ c = .nullw .double) ∨
    ((k = .double ∨ k = .float) ∧ s.type = "float" ∧ c = .nullw .float) ∨
    (k = .string ∧ s.type = "string" ∧ c = .nullw .string) ∨
    (k = .time ∧ s.type = "string" ∧ c = .nullw .time) := by
  unfold buildNull at h
  cases k <;> simp only at h
  case double | float =>
    split at h
    · cases h; simp_all
    · split at h <;> cases h
      simp_all
  all_goals
    split at h <;> cases h
    simp_all

theorem regLookup_noCustom {reg : Reg} (hreg : ∀ id, reg.custom id = none) {T : GoType} {b : Schema → Except String Codec}
    (h : regLookup reg T = some b) : (T = .time ∧ b = buildTime) ∨ ∃ k, T = .nullT k ∧ b = buildNull k := by
  cases T <;> simp only [regLookup] at h <;> try (cases h; done)
  · split at h
    · cases h; exact .inl ⟨rfl, rfl⟩
    · cases h
  · split at h
    · cases h; exact .inr ⟨_, rfl, rfl⟩
    · cases h
  · rename_i id u
    rw [hreg id] at h; cases h

/-- The target is an index: the arms that need a typed target have `some T` there, those of an untyped
construction (`targets[i] = none`) have `none`, so `cases` on an instance with a known target keeps only the arms
that apply.  Arms whose guard lets both pass say "a target, if there is one, has this kind". -/
inductive KindBuilt (reg : Reg) (n : Nat) (s : Schema) (oe : Bool) : Option GoType → Codec → Prop
  | null {typ} : s.type = "null" → KindBuilt reg n s oe typ .null
  | boolean {typ} : s.type = "boolean" → (∀ T, typ = some T → T.strip = .bool) → KindBuilt reg n s oe typ (.bool oe)
  | long {typ c} : s.type = "int" ∨ s.type = "long" → buildLong (typ.map GoType.strip) oe = .ok c →
      KindBuilt reg n s oe typ c
  | float {typ} : s.type = "float" → (∀ T, typ = some T → T.strip = .float32) → KindBuilt reg n s oe typ (.float oe)
  | double {typ} : s.type = "double" → (∀ T, typ = some T → T.strip = .float64) →
      KindBuilt reg n s oe typ (.double oe)
  | f32double {T} : s.type = "double" → T.strip = .float32 → KindBuilt reg n s oe (some T) (.f32double oe)
  | bytes {typ} : s.type = "bytes" → (∀ T, typ = some T → T.strip = .slice (.uint 8)) →
      KindBuilt reg n s oe typ (.bytes oe)
  | string {typ} : s.type = "string" → (∀ T, typ = some T → T.strip = .string) → KindBuilt reg n s oe typ (.string oe)
  | recordAny {o cs ts} : s.type = "record" → s.object = some o → buildFields reg n o.fields none = .ok (cs, ts) →
      KindBuilt reg n s oe none (.record [] cs ts)
  | record {o T nm pk gfs cs ts} : s.type = "record" → s.object = some o → T.strip = .struct nm pk gfs →
      buildFields reg n o.fields (some gfs) = .ok (cs, ts) →
      KindBuilt reg n s oe (some T) (.record (zeroFields gfs) cs ts)
  | recordLib {o T cs ts} : s.type = "record" → s.object = some o → (T.strip = .time ∨ ∃ k, T.strip = .nullT k) →
      buildFields reg n o.fields (some []) = .ok (cs, ts) → KindBuilt reg n s oe (some T) (.record [] cs ts)
  | arrayAny {o ci} : s.type = "array" → s.object = some o → buildCodec reg n o.items none false = .ok ci →
      KindBuilt reg n s oe none (.array ci oe)
  | array {o T e ci} : s.type = "array" → s.object = some o → T.strip = .slice e →
      buildCodec reg n o.items (some e) false = .ok ci → KindBuilt reg n s oe (some T) (.array ci oe)
  | mapAny {o ci} : s.type = "map" → s.object = some o → buildCodec reg n o.values none false = .ok ci →
      KindBuilt reg n s oe none (.map ci oe)
  | map {o T key v ci} : s.type = "map" → s.object = some o → T.strip = .map key v → key.strip = .string →
      buildCodec reg n o.values (some v) false = .ok ci → KindBuilt reg n s oe (some T) (.map ci oe)
  | union {typ c} : s.type = "union" → buildUnion reg n s.union typ oe = .ok c → KindBuilt reg n s oe typ c
  | fixed {typ o} : s.type = "fixed" → s.object = some o →
      (∀ T, typ = some T → ∃ m : Nat, T.strip = .array m (.uint 8) ∧ (m : Int) = o.size) →
      KindBuilt reg n s oe typ (.fixed o.size)

theorem kind_of_none {typ : Option GoType} {P : GoType → Prop} (h : typ.map GoType.strip = none) :
    ∀ T, typ = some T → P T := by
  intro T hT; subst hT; cases h

theorem kind_of_some {typ : Option GoType} {K : GoType} (h : typ.map GoType.strip = some K) :
    ∀ T, typ = some T → T.strip = K := by
  intro T hT; subst hT; exact Option.some.inj h

theorem buildKind_inv {reg : Reg} {n : Nat} {s : Schema} {typ : Option GoType} {oe : Bool} {c : Codec}
    (h : buildKind reg (n + 1) s typ oe = .ok c) : KindBuilt reg n s oe typ c := by
  simp only [buildKind] at h
  -- one arm at a time, with `if_pos`/`if_neg`: `split` and `simp [hᵢ]` would traverse the whole chain at every step
  by_cases h1 : (s.type == "null") = true
  · rw [if_pos h1] at h; cases h; exact .null (eq_of_beq h1)
  rw [if_neg h1] at h
  by_cases h2 : (s.type == "boolean") = true
  · rw [if_pos h2] at h
    split at h
    · cases h; exact .boolean (eq_of_beq h2) (kind_of_none ‹_›)
    · cases h; exact .boolean (eq_of_beq h2) (kind_of_some ‹_›)
    · cases h
  rw [if_neg h2] at h
  by_cases h3 : (s.type == "int" || s.type == "long") = true
  · rw [if_pos h3] at h; exact .long (by simpa using h3) h
  rw [if_neg h3] at h
  by_cases h4 : (s.type == "float") = true
  · rw [if_pos h4] at h
    split at h
    · cases h; exact .float (eq_of_beq h4) (kind_of_none ‹_›)
    · cases h; exact .float (eq_of_beq h4) (kind_of_some ‹_›)
    · cases h
  rw [if_neg h4] at h
  by_cases h5 : (s.type == "double") = true
  · rw [if_pos h5] at h
    split at h
    · cases h; exact .double (eq_of_beq h5) (kind_of_none ‹_›)
    · cases h; exact .double (eq_of_beq h5) (kind_of_some ‹_›)
    · obtain ⟨T, rfl, hT⟩ := Option.map_eq_some_iff.mp ‹_›
      cases h; exact .f32double (eq_of_beq h5) hT
    · cases h
  rw [if_neg h5] at h
  by_cases h6 : (s.type == "bytes") = true
  · rw [if_pos h6] at h
    split at h
    · cases h; exact .bytes (eq_of_beq h6) (kind_of_none ‹_›)
    · cases h; exact .bytes (eq_of_beq h6) (kind_of_some ‹_›)
    · cases h
  rw [if_neg h6] at h
  by_cases h7 : (s.type == "string") = true
  · rw [if_pos h7] at h
    split at h
    · cases h; exact .string (eq_of_beq h7) (kind_of_none ‹_›)
    · cases h; exact .string (eq_of_beq h7) (kind_of_some ‹_›)
    · cases h
  rw [if_neg h7] at h
  by_cases h8 : (s.type == "record") = true
  · rw [if_pos h8] at h
    split at h
    · cases h
    split at h
    · obtain rfl := Option.map_eq_none_iff.mp ‹_›
      split at h <;> cases h
      exact .recordAny (eq_of_beq h8) ‹_› ‹_›
    · obtain ⟨T, rfl, hT⟩ := Option.map_eq_some_iff.mp ‹_›
      split at h <;> cases h
      exact .record (eq_of_beq h8) ‹_› hT ‹_›
    · obtain ⟨T, rfl, hT⟩ := Option.map_eq_some_iff.mp ‹_›
      split at h <;> cases h
      exact .recordLib (eq_of_beq h8) ‹_› (.inl hT) ‹_›
    · obtain ⟨T, rfl, hT⟩ := Option.map_eq_some_iff.mp ‹_›
      split at h <;> cases h
      exact .recordLib (eq_of_beq h8) ‹_› (.inr ⟨_, hT⟩) ‹_›
    · cases h
  rw [if_neg h8] at h
  by_cases h9 : (s.type == "enum") = true
  · rw [if_pos h9] at h; cases h
  rw [if_neg h9] at h
  by_cases h10 : (s.type == "array") = true
  · rw [if_pos h10] at h
    split at h
    · cases h
    split at h
    · obtain rfl := Option.map_eq_none_iff.mp ‹_›
      split at h <;> cases h
      exact .arrayAny (eq_of_beq h10) ‹_› ‹_›
    · obtain ⟨T, rfl, hT⟩ := Option.map_eq_some_iff.mp ‹_›
      split at h <;> cases h
      exact .array (eq_of_beq h10) ‹_› hT ‹_›
    · cases h
  rw [if_neg h10] at h
  by_cases h11 : (s.type == "map") = true
  · rw [if_pos h11] at h
    split at h
    · cases h
    split at h
    · obtain rfl := Option.map_eq_none_iff.mp ‹_›
      split at h <;> cases h
      exact .mapAny (eq_of_beq h11) ‹_› ‹_›
    · obtain ⟨T, rfl, hT⟩ := Option.map_eq_some_iff.mp ‹_›
      rename_i key v _
      cases hkey : key.strip <;> simp only [hkey, if_true, Bool.false_eq_true, if_false] at h <;>
        try (cases h; done)
      split at h <;> cases h
      exact .map (eq_of_beq h11) ‹_› hT hkey ‹_›
    · cases h
  rw [if_neg h11] at h
  by_cases h12 : (s.type == "union") = true
  · rw [if_pos h12] at h; exact .union (eq_of_beq h12) h
  rw [if_neg h12] at h
  by_cases h13 : (s.type == "fixed") = true
  · rw [if_pos h13] at h
    split at h
    · cases h
    split at h
    · cases h; exact .fixed (eq_of_beq h13) ‹_› (kind_of_none ‹_›)
    · split at h <;> cases h
      refine .fixed (eq_of_beq h13) ‹_› fun T hT => ⟨_, kind_of_some ‹_› T hT, ‹_›⟩
    · cases h
  rw [if_neg h13] at h; cases h

/-- `bs` is the union of `null` and one other schema `u`, which stands at position `nn`: the unions
`buildUnionCodec` gives a one-byte selector instead of a branch list -/
def NullableAt (bs : List Schema) (nn : Nat) (u : Schema) : Prop :=
  (∃ a, bs = [a, u] ∧ a.type = "null" ∧ nn = 1) ∨ (∃ b, bs = [u, b] ∧ b.type = "null" ∧ nn = 0)

/-- what a successful `buildUnion` did: wrapped the codec of the other branch of a nullable union (as
`unionNullString` if that is the string codec, else as `unionOne`), or built a branch list -/
inductive UnionBuilt (reg : Reg) (n : Nat) (bs : List Schema) (typ : Option GoType) (oe : Bool) : Codec → Prop
  | nullString {u o nn} : NullableAt bs nn u → buildCodec reg n u typ oe = .ok (.string o) →
      UnionBuilt reg n bs typ oe (.unionNullString o nn)
  | one {u c nn} : NullableAt bs nn u → buildCodec reg n u typ oe = .ok c → UnionBuilt reg n bs typ oe (.unionOne c nn)
  | general {cs} : buildBranches reg n bs typ oe = .ok cs → UnionBuilt reg n bs typ oe (.union cs)

theorem buildUnion_inv {reg : Reg} {n : Nat} {bs : List Schema} {typ : Option GoType} {oe : Bool} {c : Codec}
    (h : buildUnion reg (n + 1) bs typ oe = .ok c) : UnionBuilt reg n bs typ oe c := by
  simp only [buildUnion] at h
  split at h
  · rename_i nn u hnull
    have hn : NullableAt bs nn u := by
      split at hnull
      · split at hnull
        · cases hnull; exact .inl ⟨_, rfl, eq_of_beq ‹_›, rfl⟩
        · split at hnull <;> cases hnull
          exact .inr ⟨_, rfl, eq_of_beq ‹_›, rfl⟩
      · cases hnull
    split at h
    · cases h; exact .nullString hn ‹_›
    · cases h; exact .one hn ‹_›
    · cases h
  · split at h <;> cases h
    exact .general ‹_›

/-- what a successful `buildCodec` did ahead of the `switch schema.Type`: unwrapped a pointer target, handed a
registered target to its builder, or went on to `buildKind` -/
inductive CodecBuilt (reg : Reg) (n : Nat) (s : Schema) (oe : Bool) : Option GoType → Codec → Prop
  | pointer {e c} : buildCodec reg n s (some e) false = .ok c → CodecBuilt reg n s oe (some (.ptr e)) (.pointer c)
  | registered {T b c} : regLookup reg T = some b → b s = .ok c → CodecBuilt reg n s oe (some T) c
  | kind {typ c} : buildKind reg n s typ oe = .ok c →
      (∀ T, typ = some T → s.type = "union" ∨ s.type = "null" ∨ regLookup reg T = none) → CodecBuilt reg n s oe typ c

theorem buildCodec_inv {reg : Reg} {n : Nat} {s : Schema} {typ : Option GoType} {oe : Bool} {c : Codec}
    (h : buildCodec reg (n + 1) s typ oe = .ok c) : CodecBuilt reg n s oe typ c := by
  simp only [buildCodec] at h
  split at h
  · split at h
    · split at h <;> cases h
      exact .pointer ‹_›
    · split at h
      · exact .registered ‹_› h
      · exact .kind h fun T hT => by cases hT; exact .inr (.inr ‹_›)
    · exact .kind h nofun
  · rename_i hs
    refine .kind h fun _ _ => ?_
    by_cases hu : s.type = "union"
    · exact .inl hu
    · by_cases hn : s.type = "null"
      · exact .inr (.inl hn)
      · simp [hu, hn] at hs

theorem buildBranches_inv {reg : Reg} {n : Nat} {bs : List Schema} {typ : Option GoType} {oe : Bool} {cs : List Codec}
    (h : buildBranches reg (n + 1) bs typ oe = .ok cs) :
    (bs = [] ∧ cs = []) ∨ ∃ b bs' c cs', bs = b :: bs' ∧ cs = c :: cs' ∧ buildCodec reg n b typ oe = .ok c ∧
      buildBranches reg n bs' typ oe = .ok cs' := by
  cases bs with
  | nil => cases h; exact .inl ⟨rfl, rfl⟩
  | cons b bs =>
    simp only [buildBranches] at h
    split at h <;> cases h
    exact .inr ⟨_, _, _, _, rfl, rfl, ‹_›, ‹_›⟩

theorem lookupField_spec (name : String) : ∀ (fs : List GoField) (i : Nat) (acc : Option (Nat × GoField)) (j : Nat) (gf : GoField),
    lookupField name fs i acc = some (j, gf) → acc = some (j, gf) ∨ (i ≤ j ∧ fs[j - i]? = some gf) := by
  intro fs
  induction fs with
  | nil => intro i acc j gf h; simp [lookupField] at h; exact .inl h
  | cons f fs ih =>
    intro i acc j gf h
    have step {acc'} (h : lookupField name fs (i + 1) acc' = some (j, gf)) :
        acc' = some (j, gf) ∨ (i ≤ j ∧ (f :: fs)[j - i]? = some gf) :=
      (ih _ _ _ _ h).imp_right fun h' => by
        have : j - i = (j - (i + 1)) + 1 := by omega
        exact ⟨by omega, by rw [this]; simpa using h'.2⟩
    simp only [lookupField] at h
    split at h
    · rcases step h with h' | h'
      · simp at h'; obtain ⟨rfl, rfl⟩ := h'; exact .inr ⟨Nat.le_refl _, by simp⟩
      · exact .inr h'
    · exact step h

theorem lookupField_get {name : String} {fs : List GoField} {j : Nat} {gf : GoField}
    (h : lookupField name fs 0 none = some (j, gf)) : fs[j]? = some gf := by
  rcases lookupField_spec _ _ _ _ _ _ h with h | ⟨_, h⟩
  · cases h
  · simpa using h

theorem lookupField_nomatch (name : String) (post : List GoField) (i : Nat) (acc : Option (Nat × GoField))
    (h : ∀ g ∈ post, nameForField g ≠ name) : lookupField name post i acc = acc := by
  induction post generalizing i acc with
  | nil => rfl
  | cons g gs ih =>
    have hg : (nameForField g == name) = false := by simpa using h g List.mem_cons_self
    simp only [lookupField, hg, Bool.and_false, Bool.false_eq_true, if_false]
    exact ih _ _ (fun g' hg' => h g' (List.mem_cons_of_mem _ hg'))

theorem lookupField_last (pre post : List GoField) (f : GoField) (i : Nat) (acc : Option (Nat × GoField))
    (hf : nameForField f ≠ "-") (h : ∀ g ∈ post, nameForField g ≠ nameForField f) :
    lookupField (nameForField f) (pre ++ f :: post) i acc = some (i + pre.length, f) := by
  induction pre generalizing i acc with
  | nil =>
    have h1 : (nameForField f != "-") = true := by simpa using hf
    simp only [List.nil_append, lookupField, h1, beq_self_eq_true, Bool.and_self, if_true, List.length_nil,
      Nat.add_zero]
    exact lookupField_nomatch _ _ _ _ h
  | cons g gs ih =>
    simp only [List.cons_append, lookupField, List.length_cons]
    split
    · rw [ih]; congr 2; omega
    · rw [ih]; congr 2; omega

end Avro
