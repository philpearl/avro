import AvroModel.Lemmas.StepLaw
/-!
The instances of the step law (`Lemmas/StepLaw.lean`) that need no hypothesis on the environment:
monotonicity in the step budget (once a call returns anything but `.fuel`, every larger budget returns the
same outcome); `read` and `skip` never panic, for every codec tree, byte string, destination and budget
(C06; `stuck`, a destination of the wrong shape, is excluded separately by the typing judgement of C05);
`skip`, which has no destination, is never `stuck`; the primitives never run out of budget.
-/
namespace Avro

def Outcome.le {α : Type} (o o' : Outcome α) : Prop := o ≠ .fuel → o' = o

theorem Outcome.le_refl {α : Type} (o : Outcome α) : Outcome.le o o := fun _ => rfl

theorem Outcome.le_fuel {α : Type} (o : Outcome α) : Outcome.le .fuel o := fun h => absurd rfl h

theorem Outcome.bind_le {α β : Type} {o o' : Outcome α} {f f' : α → Outcome β}
    (h1 : Outcome.le o o') (h2 : ∀ a, o = .ok a → Outcome.le (f a) (f' a)) :
    Outcome.le (Outcome.bind o f) (Outcome.bind o' f') := by
  cases o with
  | fuel => exact Outcome.le_fuel _
  | ok a => rw [h1 (by simp)]; exact h2 a rfl
  | err => rw [h1 (by simp)]; exact Outcome.le_refl _
  | panic => rw [h1 (by simp)]; exact Outcome.le_refl _
  | stuck => rw [h1 (by simp)]; exact Outcome.le_refl _

theorem fuel_or_of_budget {α : Type} {f : Nat → Outcome α} {P : Outcome α → Prop} {B n : Nat}
    (hB : ∀ m, B ≤ m → P (f m)) (hmono : ∀ m, n ≤ m → f n ≠ .fuel → f m = f n) : f n = .fuel ∨ P (f n) := by
  by_cases h : f n = .fuel
  · exact Or.inl h
  · exact Or.inr (hmono (max n B) (Nat.le_max_left ..) h ▸ hB _ (Nat.le_max_right ..))

variable (env : Env)

theorem mono_law : StepLaw env fun _ _ o o' => Outcome.le o o' where
  fuel _ _ _ := Outcome.le_fuel _
  ok _ _ := Outcome.le_refl _
  err _ _ := Outcome.le_refl _
  bind h1 h2 := Outcome.bind_le h1 h2
  rdVarint _ := Outcome.le_refl _
  rdInt _ _ := Outcome.le_refl _
  rdByte _ := Outcome.le_refl _
  next _ _ := Outcome.le_refl _
  customRead _ _ _ _ _ := Outcome.le_refl _
  customSkip _ _ _ _ := Outcome.le_refl _

theorem monoRead {n m : Nat} (h : n ≤ m) : (mono_law env).ReadAt n m := by
  obtain ⟨k, rfl⟩ := Nat.exists_eq_add_of_le h
  exact (mono_law env).readAt (fun _ _ => Outcome.le_refl _) n k

theorem monoSkip {n m : Nat} (h : n ≤ m) : (mono_law env).SkipAt n m := by
  obtain ⟨k, rfl⟩ := Nat.exists_eq_add_of_le h
  exact (mono_law env).skipAt n k

theorem read_mono {n m : Nat} (h : n ≤ m) {c : Codec} {bs : Bytes} {dst : GoVal}
    (hr : read env n c bs dst ≠ .fuel) : read env m c bs dst = read env n c bs dst :=
  (monoRead env h).read c bs dst hr

theorem readFields_mono {n m : Nat} (h : n ≤ m) {cs : List Codec} {ts : List (Option Nat)} {bs : Bytes}
    {fs : List GoVal} (hr : readFields env n cs ts bs fs ≠ .fuel) :
    readFields env m cs ts bs fs = readFields env n cs ts bs fs :=
  (monoRead env h).readFields cs ts bs fs hr

theorem readArrayBlocks_mono {n m : Nat} (h : n ≤ m) {item : Codec} {bs : Bytes} {acc : List GoVal}
    (hr : readArrayBlocks env n item bs acc ≠ .fuel) :
    readArrayBlocks env m item bs acc = readArrayBlocks env n item bs acc :=
  (monoRead env h).readArrayBlocks item bs acc hr

theorem readItems_mono {n m : Nat} (h : n ≤ m) {item : Codec} {k : Nat} {bs : Bytes} {acc : List GoVal}
    (hr : readItems env n item k bs acc ≠ .fuel) :
    readItems env m item k bs acc = readItems env n item k bs acc :=
  (monoRead env h).readItems item k bs acc hr

theorem readMapBlocks_mono {n m : Nat} (h : n ≤ m) {val : Codec} {bs : Bytes} {ks : List Bytes}
    {vs : List GoVal} (hr : readMapBlocks env n val bs ks vs ≠ .fuel) :
    readMapBlocks env m val bs ks vs = readMapBlocks env n val bs ks vs :=
  (monoRead env h).readMapBlocks val bs ks vs hr

theorem readMapItems_mono {n m : Nat} (h : n ≤ m) {val : Codec} {k : Nat} {bs : Bytes} {ks : List Bytes}
    {vs : List GoVal} (hr : readMapItems env n val k bs ks vs ≠ .fuel) :
    readMapItems env m val k bs ks vs = readMapItems env n val k bs ks vs :=
  (monoRead env h).readMapItems val k bs ks vs hr

theorem skip_mono {n m : Nat} (h : n ≤ m) {c : Codec} {bs : Bytes}
    (hr : skip env n c bs ≠ .fuel) : skip env m c bs = skip env n c bs :=
  (monoSkip env h).skip c bs hr

theorem skipFields_mono {n m : Nat} (h : n ≤ m) {cs : List Codec} {bs : Bytes}
    (hr : skipFields env n cs bs ≠ .fuel) : skipFields env m cs bs = skipFields env n cs bs :=
  (monoSkip env h).skipFields cs bs hr

theorem skipBlocks_mono {n m : Nat} (h : n ≤ m) {keyed : Bool} {item : Codec} {bs : Bytes}
    (hr : skipBlocks env n keyed item bs ≠ .fuel) :
    skipBlocks env m keyed item bs = skipBlocks env n keyed item bs :=
  (monoSkip env h).skipBlocks keyed item bs hr

theorem skipItems_mono {n m : Nat} (h : n ≤ m) {keyed : Bool} {item : Codec} {k : Nat} {bs : Bytes}
    (hr : skipItems env n keyed item k bs ≠ .fuel) :
    skipItems env m keyed item k bs = skipItems env n keyed item k bs :=
  (monoSkip env h).skipItems keyed item k bs hr

theorem noPanic_law : StepLaw env fun _ _ o _ => o ≠ .panic where
  fuel _ _ _ := nofun
  ok _ _ := nofun
  err _ _ := nofun
  bind := Outcome.bind_ne_panic
  rdVarint bs := (rdVarint_okOrErr bs).ne_panic
  rdInt w bs := (rdInt_okOrErr w bs).ne_panic
  rdByte bs := (rdByte_okOrErr bs).ne_panic
  next l bs := (next_okOrErr l bs).ne_panic
  customRead _ _ _ _ _ := nofun
  customSkip _ _ _ _ := nofun

theorem read_ne_panic (n : Nat) (c : Codec) (bs : Bytes) (dst : GoVal) : read env n c bs dst ≠ .panic :=
  ((noPanic_law env).readAt (fun _ _ => nofun) n 0).read c bs dst

theorem skip_ne_panic (n : Nat) (c : Codec) (bs : Bytes) : skip env n c bs ≠ .panic :=
  ((noPanic_law env).skipAt n 0).skip c bs

theorem neverStuck_law : StepLaw env fun _ _ o _ => o ≠ .stuck where
  fuel _ _ _ := nofun
  ok _ _ := nofun
  err _ _ := nofun
  bind := Outcome.bind_ne_stuck
  rdVarint bs := (rdVarint_okOrErr bs).ne_stuck
  rdInt w bs := (rdInt_okOrErr w bs).ne_stuck
  rdByte bs := (rdByte_okOrErr bs).ne_stuck
  next l bs := (next_okOrErr l bs).ne_stuck
  customRead _ _ _ _ _ := nofun
  customSkip _ _ _ _ := nofun

theorem skip_ne_stuck (n : Nat) (c : Codec) (bs : Bytes) : skip env n c bs ≠ .stuck :=
  ((neverStuck_law env).skipAt n 0).skip c bs

theorem neFuel_prim : PrimLaw env fun _ _ o _ => o ≠ .fuel where
  ok _ _ := nofun
  err _ _ := nofun
  bind := Outcome.bind_ne_fuel
  rdVarint bs := (rdVarint_okOrErr bs).ne_fuel
  rdInt w bs := (rdInt_okOrErr w bs).ne_fuel
  rdByte bs := (rdByte_okOrErr bs).ne_fuel
  next l bs := (next_okOrErr l bs).ne_fuel
  customRead _ _ _ _ _ := nofun
  customSkip _ _ _ _ := nofun

end Avro
