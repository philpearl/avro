import AvroModel.Schema
/-! Lemmas of the schema JSON model: the library's struct decoding loop in a form shared by `SchemaObject`
and `SchemaRecordField` (`foldMembers`), and `decodeAttr` / `decodeFAttr` by member name. -/
namespace Avro

theorem Schema.marshalsEmpty_iff (s : Schema) : s.marshalsEmpty = true ↔ s = Schema.zero := by
  match s with
  | .mk t none [] => simp [Schema.marshalsEmpty, Schema.zero]
  | .mk t none (u :: us) => simp [Schema.marshalsEmpty, Schema.zero]
  | .mk t (some o) u => simp [Schema.marshalsEmpty, Schema.zero]

theorem keys_eq_map : (ms : List (String × Json)) → Json.keys ms = ms.map (·.1)
  | [] => rfl
  | (k, v) :: ms => by simp [Json.keys, keys_eq_map ms]

theorem dupFreeMembers_eq_all : (ms : List (String × Json)) → Json.dupFreeMembers ms = ms.all (fun m => m.2.dupFree)
  | [] => rfl
  | (k, v) :: ms => by simp [Json.dupFreeMembers, dupFreeMembers_eq_all ms]

theorem firstDup_isNone_iff (ks : List String) (seen : List String) :
    (firstDup seen ks).isNone = true ↔ ks.Nodup ∧ ∀ k ∈ ks, k ∉ seen := by
  induction ks generalizing seen with
  | nil => simp [firstDup]
  | cons k ks ih =>
    simp only [firstDup, List.contains_eq_mem]
    by_cases hk : k ∈ seen
    · simp [hk]
    · rw [if_neg (by simpa using hk), ih]
      simp only [List.nodup_cons, List.mem_cons, forall_eq_or_imp, not_or]
      constructor
      · rintro ⟨h1, h2⟩
        exact ⟨⟨fun hm => (h2 k hm).1 rfl, h1⟩, hk, fun a ha => (h2 a ha).2⟩
      · rintro ⟨⟨h1, h2⟩, _, h4⟩
        exact ⟨h2, fun a ha => ⟨fun h => h1 (h ▸ ha), h4 a ha⟩⟩

theorem dupFree_obj (ms : List (String × Json)) :
    (Json.obj ms).dupFree = (decide (ms.map (·.1)).Nodup && ms.all (fun m => m.2.dupFree)) := by
  simp only [Json.dupFree, keys_eq_map, dupFreeMembers_eq_all]
  congr 1
  rw [Bool.eq_iff_iff, firstDup_isNone_iff]
  simp

/-- result of a parse with the error class forgotten (the implementation is compared on
ok-versus-error only) -/
def PResult.opt {α} : PResult α → Option α
  | .ok x => some x
  | .error _ => none

@[simp] theorem PResult.opt_ok {α} (x : α) : PResult.opt (.ok x : PResult α) = some x := rfl
@[simp] theorem PResult.opt_error {α} (e : PErr) : PResult.opt (.error e : PResult α) = none := rfl

theorem PResult.opt_bind {α β} (r : PResult α) (f : α → PResult β) :
    PResult.opt (r >>= f) = (PResult.opt r).bind fun x => PResult.opt (f x) := by
  cases r <;> rfl

theorem PResult.bind_eq_ok {α β} {r : PResult α} {f : α → PResult β} {y : β} :
    r >>= f = .ok y ↔ ∃ x, r = .ok x ∧ f x = .ok y := by
  cases r <;> simp [bind, Except.bind]

theorem PResult.opt_eq_none {α} {r : PResult α} : PResult.opt r = none ↔ ∀ x, r ≠ .ok x := by
  cases r <;> simp

theorem PResult.opt_bind_congr {α β} {r r' : PResult α} {f f' : α → PResult β}
    (h : PResult.opt r = PResult.opt r') (hf : ∀ x, PResult.opt (f x) = PResult.opt (f' x)) :
    PResult.opt (r >>= f) = PResult.opt (r' >>= f') := by
  simp only [PResult.opt_bind, h, hf]

/-- a list decoded element by element, in order (`parseSchemas`, `parseFieldList`), fails when an element does -/
theorem seq_fails {α β} {f : α → PResult β} {g : List α → PResult (List β)}
    (hg : ∀ a as, g (a :: as) = f a >>= fun s => g as >>= fun ss => .ok (s :: ss))
    {xs : List α} {x : α} (hx : x ∈ xs) (hv : PResult.opt (f x) = none) : PResult.opt (g xs) = none := by
  induction xs with
  | nil => simp at hx
  | cons a as ih =>
    simp only [hg, PResult.opt_bind]
    rcases List.mem_cons.1 hx with rfl | h
    · rw [hv]; rfl
    · rw [ih h]; cases PResult.opt (f a) <;> rfl

/-- generic form of the library's struct decoding loop (`parseObjMembers`, `parseFieldMembers`) -/
def foldMembers {α σ} (dec : String → Json → PResult (Option α)) (app : Option α → σ → σ)
    (seen : List String) (st : σ) : List (String × Json) → PResult σ
  | [] => .ok st
  | (k, v) :: ms =>
    if seen.contains k then .error (.duplicate k) else do
      let a ← dec k v
      foldMembers dec app (k :: seen) (app a st) ms

def decObj (k : String) (v : Json) : PResult (Option Attr) :=
  decodeAttr k v (fun _ => parseSchema v) (fun _ => parseFields v)
def decFld (k : String) (v : Json) : PResult (Option FAttr) :=
  decodeFAttr k v (fun _ => parseSchema v)

/-- `pOM` abbreviates `parseObjMembers`, `pFM` `parseFieldMembers` -/
theorem pOM_eq_fold (seen : List String) (o : SchemaObject) (ms : List (String × Json)) :
    parseObjMembers seen o ms = foldMembers decObj applyAttr seen o ms := by
  induction ms generalizing seen o with
  | nil => simp [parseObjMembers, foldMembers]
  | cons m ms ih =>
    obtain ⟨k, v⟩ := m
    simp only [parseObjMembers, foldMembers, decObj, ih]

theorem pFM_eq_fold (seen : List String) (f : SchemaField) (ms : List (String × Json)) :
    parseFieldMembers seen f ms = foldMembers decFld applyFAttr seen f ms := by
  induction ms generalizing seen f with
  | nil => simp [parseFieldMembers, foldMembers]
  | cons m ms ih =>
    obtain ⟨k, v⟩ := m
    simp only [parseFieldMembers, foldMembers, decFld, ih]

section fold
variable {α σ : Type} (dec : String → Json → PResult (Option α)) (app : Option α → σ → σ)

theorem fold_seen_congr (ms : List (String × Json)) (seen seen' : List String) (st : σ)
    (h : ∀ k ∈ ms.map (·.1), (k ∈ seen ↔ k ∈ seen')) :
    foldMembers dec app seen st ms = foldMembers dec app seen' st ms := by
  induction ms generalizing seen seen' st with
  | nil => rfl
  | cons m ms ih =>
    obtain ⟨k, v⟩ := m
    simp only [List.map_cons, List.mem_cons, forall_eq_or_imp] at h
    have hc : seen.contains k = seen'.contains k := by rw [Bool.eq_iff_iff]; simp [h.1]
    simp only [foldMembers, hc]
    split
    · rfl
    · congr 1; funext a; apply ih; intro k' hk'; simp [h.2 k' hk']

/-- members with different names may be decoded and stored in either order -/
def Commutes : Prop :=
  ∀ k1 v1 k2 v2 a1 a2 (st : σ), k1 ≠ k2 → dec k1 v1 = .ok a1 → dec k2 v2 = .ok a2 →
    app a1 (app a2 st) = app a2 (app a1 st)

theorem fold_perm (hc : Commutes dec app) {ms ms' : List (String × Json)} (hp : List.Perm ms ms')
    (seen : List String) (st : σ) :
    PResult.opt (foldMembers dec app seen st ms) = PResult.opt (foldMembers dec app seen st ms') := by
  induction hp generalizing seen st with
  | nil => rfl
  | cons m _ ih =>
    obtain ⟨k, v⟩ := m
    simp only [foldMembers]
    split
    · rfl
    · simp only [PResult.opt_bind, ih]
  | swap m1 m2 l =>
    obtain ⟨k1, v1⟩ := m1
    obtain ⟨k2, v2⟩ := m2
    -- a name seen before, the same name twice or a value that does not decode fails in both orders
    by_cases h12 : k1 = k2
    · subst h12
      by_cases hs : k1 ∈ seen <;> cases h1 : dec k1 v1 <;> cases h2 : dec k1 v2 <;>
        simp [foldMembers, hs, h1, h2, bind, Except.bind, PResult.opt]
    have h21 := Ne.symm h12
    by_cases hs1 : k1 ∈ seen <;> by_cases hs2 : k2 ∈ seen <;> cases h1 : dec k1 v1 <;> cases h2 : dec k2 v2 <;>
      simp [foldMembers, hs1, hs2, h12, h21, h1, h2, bind, Except.bind, PResult.opt]
    rename_i a1 a2
    rw [hc k1 v1 k2 v2 a1 a2 st h12 h1 h2,
      fold_seen_congr dec app l (k1 :: k2 :: seen) (k2 :: k1 :: seen) _
        fun k _ => by simp only [List.mem_cons, or_left_comm]]
  | trans _ _ ih1 ih2 => exact (ih1 seen st).trans (ih2 seen st)

theorem fold_skip (hnone : ∀ st, app none st = st) (ex ms : List (String × Json))
    (hex : ∀ e ∈ ex, dec e.1 e.2 = .ok none) (hnd : (ex.map (·.1)).Nodup)
    (hdisj : ∀ e ∈ ex, e.1 ∉ ms.map (·.1)) (seen : List String) (hseen : ∀ e ∈ ex, e.1 ∉ seen) (st : σ) :
    foldMembers dec app seen st (ex ++ ms) = foldMembers dec app seen st ms := by
  induction ex generalizing seen with
  | nil => rfl
  | cons e ex ih =>
    obtain ⟨k, v⟩ := e
    simp only [List.map_cons, List.nodup_cons] at hnd
    simp only [List.forall_mem_cons] at hex hdisj hseen
    have hk : seen.contains k = false := by simpa using hseen.1
    simp only [List.cons_append, foldMembers, hk, hex.1, bind, Except.bind, hnone]
    rw [ih hex.2 hnd.2 hdisj.2 (k :: seen)]
    · exact fold_seen_congr dec app ms _ _ st fun k' hk' => by
        simp only [List.mem_cons, or_iff_right_iff_imp]
        rintro rfl; exact absurd hk' hdisj.1
    · intro e he
      simp only [List.mem_cons, not_or]
      exact ⟨fun h => hnd.1 (h ▸ List.mem_map_of_mem he), hseen.2 e he⟩

theorem fold_ok (ms : List (String × Json)) (seen : List String) (st st' : σ)
    (h : foldMembers dec app seen st ms = .ok st') :
    (ms.map (·.1)).Nodup ∧ (∀ k ∈ ms.map (·.1), k ∉ seen) ∧ ∀ m ∈ ms, PResult.opt (dec m.1 m.2) ≠ none := by
  induction ms generalizing seen st with
  | nil => simp
  | cons m ms ih =>
    obtain ⟨k, v⟩ := m
    simp only [foldMembers, List.contains_eq_mem] at h
    split at h
    · cases h
    · rename_i hk
      obtain ⟨a, hd, h⟩ := PResult.bind_eq_ok.1 h
      obtain ⟨hnd, hs, hdec⟩ := ih _ _ h
      simp only [List.map_cons, List.nodup_cons, List.mem_cons, forall_eq_or_imp]
      exact ⟨⟨fun hm => hs k hm (by simp), hnd⟩, ⟨by simpa using hk, fun k' hk' hs' => hs k' hk' (by simp [hs'])⟩,
        by simp [hd], hdec⟩

end fold

theorem mem_knownKeys {k : String} : k ∈ knownKeys ↔ k = "type" ∨ k = "logicalType" ∨ k = "name" ∨
    k = "namespace" ∨ k = "fields" ∨ k = "items" ∨ k = "values" ∨ k = "size" ∨ k = "symbols" := by
  simp [knownKeys, objectKeys]

section
variable {v : Json} {f : Unit → PResult Schema} {g : Unit → PResult (List SchemaField)}

/-- Proofs rewrite with these and do not unfold `decodeAttr`: `split` on its ten-deep `if` chain is very
slow to check. -/
theorem decodeAttr_known :
    decodeAttr "type" v f g = (decString "type" v >>= fun x => .ok (some (.type x))) ∧
    decodeAttr "logicalType" v f g = (decString "logicalType" v >>= fun x => .ok (some (.logicalType x))) ∧
    decodeAttr "name" v f g = (decString "name" v >>= fun x => .ok (some (.name x))) ∧
    decodeAttr "namespace" v f g = (decString "namespace" v >>= fun x => .ok (some (.nspace x))) ∧
    decodeAttr "fields" v f g = (g () >>= fun x => .ok (some (.fields x))) ∧
    decodeAttr "items" v f g = (f () >>= fun x => .ok (some (.items x))) ∧
    decodeAttr "values" v f g = (f () >>= fun x => .ok (some (.values x))) ∧
    decodeAttr "size" v f g = (decInt "size" v >>= fun x => .ok (some (.size x))) ∧
    decodeAttr "symbols" v f g = (decStrings "symbols" v >>= fun x => .ok (some (.symbols x))) := by
  simp [decodeAttr]

theorem decodeAttr_unknown {k : String} (hk : k ∉ knownKeys) :
    decodeAttr k v f g = if v.dupFree then .ok none else .error (.duplicate "") := by
  simp only [mem_knownKeys, not_or] at hk
  simp only [decodeAttr, hk, if_false]

theorem decodeFAttr_known :
    decodeFAttr "name" v f = (decString "name" v >>= fun x => .ok (some (.name x))) ∧
    decodeFAttr "type" v f = (f () >>= fun x => .ok (some (.type x))) := by
  simp [decodeFAttr]

theorem decodeFAttr_unknown {k : String} (hk : k ≠ "name" ∧ k ≠ "type") :
    decodeFAttr k v f = if v.dupFree then .ok none else .error (.duplicate "") := by
  simp only [decodeFAttr, hk, if_false]

theorem decodeAttr_key {k : String} {a : Attr} (h : decodeAttr k v f g = .ok (some a)) : a.key = k := by
  by_cases hk : k ∈ knownKeys
  · rcases mem_knownKeys.1 hk with rfl | rfl | rfl | rfl | rfl | rfl | rfl | rfl | rfl <;>
      simp only [decodeAttr_known, PResult.bind_eq_ok, Except.ok.injEq, Option.some.injEq] at h <;>
      obtain ⟨_, _, rfl⟩ := h <;> rfl
  · rw [decodeAttr_unknown hk] at h
    split at h <;> simp at h

theorem decodeFAttr_key {k : String} {a : FAttr} (h : decodeFAttr k v f = .ok (some a)) : a.key = k := by
  by_cases hk : k = "name" ∨ k = "type"
  · rcases hk with rfl | rfl <;>
      simp only [decodeFAttr_known, PResult.bind_eq_ok, Except.ok.injEq, Option.some.injEq] at h <;>
      obtain ⟨_, _, rfl⟩ := h <;> rfl
  · rw [decodeFAttr_unknown (not_or.1 hk)] at h
    split at h <;> simp at h
end

theorem applyAttr_comm (a b : Attr) (h : a.key ≠ b.key) (o : SchemaObject) :
    applyAttr (some a) (applyAttr (some b) o) = applyAttr (some b) (applyAttr (some a) o) := by
  cases o; cases a <;> cases b <;> first | rfl | (exfalso; simp [Attr.key] at h)

theorem applyFAttr_comm (a b : FAttr) (h : a.key ≠ b.key) (o : SchemaField) :
    applyFAttr (some a) (applyFAttr (some b) o) = applyFAttr (some b) (applyFAttr (some a) o) := by
  cases o; cases a <;> cases b <;> first | rfl | (exfalso; simp [FAttr.key] at h)

theorem commutes_obj : Commutes decObj applyAttr := by
  intro k1 v1 k2 v2 a1 a2 st h12 h1 h2
  cases a1 with
  | none => rfl
  | some a1 =>
    cases a2 with
    | none => rfl
    | some a2 =>
      apply applyAttr_comm
      rw [decodeAttr_key h1, decodeAttr_key h2]; exact h12

theorem commutes_fld : Commutes decFld applyFAttr := by
  intro k1 v1 k2 v2 a1 a2 st h12 h1 h2
  cases a1 with
  | none => rfl
  | some a1 =>
    cases a2 with
    | none => rfl
    | some a2 =>
      apply applyFAttr_comm
      rw [decodeFAttr_key h1, decodeFAttr_key h2]; exact h12

theorem decStrings_map_str (a : String) (ys : List String) :
    decStrings a (.arr (ys.map Json.str)) = .ok ys := by
  simp only [decStrings]
  induction ys with
  | nil => rfl
  | cons y ys ih => simp [List.mapM_cons, decString, ih, bind, Except.bind, pure, Except.pure]

/-- parsing the member list written by `MarshalJSONTo` for an object-form schema restores the object -/
theorem pOM_marshal (t l n ns : String) (f : List SchemaField) (i v : Schema) (sz : Int) (y : List String)
    (hf : t = "record" ∨ f = []) (hi : t = "array" ∨ i = Schema.zero) (hv : t = "map" ∨ v = Schema.zero)
    (hsz : t = "fixed" ∨ sz = 0) (hy : t = "enum" ∨ y = [])
    (hrange : minInt64 ≤ sz ∧ sz ≤ maxInt64)
    (ihf : parseFieldList (marshalFields f) = .ok f)
    (ihi : parseSchema (marshalSchema i) = .ok i) (ihv : parseSchema (marshalSchema v) = .ok v) :
    parseObjMembers [] SchemaObject.zero
      ([("type", Json.str t)] ++ optMember "logicalType" l ++ optMember "name" n ++ optMember "namespace" ns
        ++ marshalAttr t (.mk "" l n ns f i v sz y)) = .ok (.mk t l n ns f i v sz y) := by
  -- the one member selected by the type, read after any of the four name-like members
  have tail (l n ns : String) (seen : List String) (hseen : ∀ k ∈ seen, k ∈ ["type", "logicalType", "name", "namespace"]) :
      parseObjMembers seen (.mk t l n ns [] Schema.zero Schema.zero 0 []) (marshalAttr t (.mk "" l n ns f i v sz y))
        = .ok (.mk t l n ns f i v sz y) := by
    have ht : t = "record" ∨ t = "enum" ∨ t = "array" ∨ t = "map" ∨ t = "fixed" ∨
        (t ≠ "record" ∧ t ≠ "enum" ∧ t ≠ "array" ∧ t ≠ "map" ∧ t ≠ "fixed") := by
      by_cases h1 : t = "record" <;> by_cases h2 : t = "enum" <;> by_cases h3 : t = "array" <;>
      by_cases h4 : t = "map" <;> by_cases h5 : t = "fixed" <;> simp [*]
    have hs : ∀ k, k ∉ ["type", "logicalType", "name", "namespace"] → seen.contains k = false := by
      intro k hk; simpa using fun h => hk (hseen k h)
    rcases ht with rfl | rfl | rfl | rfl | rfl | ht <;>
    simp_all [marshalAttr, parseObjMembers, decodeAttr_known, decInt, applyAttr, parseFields,
      bind, Except.bind, decStrings_map_str]
  by_cases hl : l = "" <;> by_cases hn : n = "" <;> by_cases hns : ns = "" <;>
  simp [optMember, parseObjMembers, decodeAttr_known, decString, applyAttr, SchemaObject.zero, bind, Except.bind, hl, hn, hns] <;>
  apply tail <;> simp

/-- the same for one record field (library `omitempty` encoding) -/
theorem parseField_marshal (n : String) (t : Schema) (iht : parseSchema (marshalSchema t) = .ok t) :
    parseField (marshalField (.mk n t)) = .ok (.mk n t) := by
  by_cases hn : n = "" <;> by_cases ht : t = Schema.zero <;>
    simp [marshalField, parseField, optMember, parseFieldMembers, decodeFAttr_known, decString, applyFAttr,
      SchemaField.zero, Schema.marshalsEmpty_iff, bind, Except.bind, hn, ht, iht]

end Avro
