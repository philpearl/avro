import AvroModel.SchemaGen
/-!
Lemmas about the schema generation model (`SchemaGen.lean`). What holds of every successful run is proved
through the graphs of the field loop and of the kind switch (`FieldsOf`, `KindOf`) and one rule induction
(`gen_induct`), not by induction over the fuel; a position in a type tree is a context with a hole (`Ctx`).
-/
namespace Avro

mutual
theorem GoType.beq_refl : ∀ t : GoType, GoType.beq t t = true
  | .bool | .float32 | .float64 | .complex | .string | .time | .iface | .chan | .func | .unsafeptr => by
    simp [GoType.beq]
  | .int _ | .uint _ | .ref _ => by simp [GoType.beq]
  | .nullT k => by cases k <;> simp [GoType.beq]
  | .slice e | .ptr e => by simp [GoType.beq, GoType.beq_refl e]
  | .array _ e => by simp [GoType.beq, GoType.beq_refl e]
  | .custom _ e => by simp [GoType.beq, GoType.beq_refl e]
  | .map k v => by simp [GoType.beq, GoType.beq_refl k, GoType.beq_refl v]
  | .struct _ _ fs => by simp [GoType.beq, GoField.beqList_refl fs]
theorem GoField.beqList_refl : ∀ fs : List GoField, GoField.beqList fs fs = true
  | [] => by simp [GoField.beqList]
  | .mk _ _ _ _ t :: fs => by simp [GoField.beqList, GoType.beq_refl t, GoField.beqList_refl fs]
end

theorem GoType.beq_eq {a b : GoType} : GoType.beq a b = true → a = b := by
  -- `caseN` is the `N`-th arm of `GoType.beq` / `GoField.beqList` as written: 8 slice, 9 array, 10 map, 11 ptr,
  -- 12 struct, 15 custom, 21 two different kinds; 22-24 the field lists
  induction a, b using GoType.beq.induct
    (motive_2 := fun fs fs' => GoField.beqList fs fs' = true → fs = fs') with
  | case8 a b ih | case11 a b ih => intro h; rw [ih (by simpa only [GoType.beq] using h)]
  | case9 n a m b ih | case15 n a m b ih =>
    intro h
    simp only [GoType.beq, Bool.and_eq_true, beq_iff_eq] at h
    rw [h.1, ih h.2]
  | case10 k v k' v' ihk ihv =>
    intro h
    simp only [GoType.beq, Bool.and_eq_true] at h
    rw [ihk h.1, ihv h.2]
  | case12 n p fs n' p' fs' ih =>
    intro h
    simp only [GoType.beq, Bool.and_eq_true, beq_iff_eq] at h
    rw [h.1.1, h.1.2, ih h.2]
  | case21 => simp only [GoType.beq]; exact nofun
  | case22 => rfl
  | case23 n e j b t fs n' e' j' b' t' fs' iht ihfs h =>
    simp only [GoField.beqList, Bool.and_eq_true, beq_iff_eq] at h
    obtain ⟨⟨⟨⟨⟨rfl, rfl⟩, rfl⟩, rfl⟩, ht⟩, hfs⟩ := h
    rw [iht ht, ihfs hfs]
  | case24 => rename_i h; simp only [GoField.beqList] at h; contradiction
  -- the kinds without components, and those with one parameter
  | _ => intro h; first | rfl | rw [beq_iff_eq.mp h]

theorem schemaForType_succ (sreg : SReg) (env : TEnv) (fuel : Nat) (ps : List GoType) (t : GoType) :
    schemaForType sreg env (fuel + 1) ps t = genStep sreg env (schemaForType sreg env fuel) ps t := rfl

theorem genStep_nonref {sreg : SReg} {env : TEnv} {rec : List GoType → GoType → Gen Schema}
    {ps : List GoType} {t : GoType} (h : ∀ n, t ≠ .ref n) :
    genStep sreg env rec ps t = genResolved sreg env rec ps t := by
  cases t <;> first | rfl | exact absurd rfl (h _)

/-- one call on a type that is no registry key and no back-reference: the self-reference check for the
composite kinds, then the kind switch (whose rows are `genKind_slice`, …) on the kind of the type -/
theorem mapping_kind {sreg : SReg} {env : TEnv} {fuel : Nat} {ps : List GoType} {t : GoType}
    (h1 : sregLookup sreg t = none) (hr : ∀ n, t ≠ .ref n) :
    schemaForType sreg env (fuel + 1) ps t =
      if t.strip.composite then
        if ps.any (GoType.beq t) then .err else genKind env (schemaForType sreg env fuel (ps ++ [t])) t.strip
      else genKind env (schemaForType sreg env fuel ps) t.strip := by
  rw [schemaForType_succ, genStep_nonref hr]; simp [genResolved, h1]

def Gen.map {α β : Type} (f : α → β) : Gen α → Gen β
  | .ok a => .ok (f a)
  | .err => .err
  | .overflow => .overflow

theorem genKind_struct (env : TEnv) (rec : GoType → Gen Schema) (name pkg : String) (fs : List GoField) :
    genKind env rec (.struct name pkg fs) = (genFields rec fs).map (recordSchema name pkg) := by
  simp only [genKind, Gen.map]; cases genFields rec fs <;> rfl

theorem genKind_slice (env : TEnv) (rec : GoType → Gen Schema) (e : GoType) :
    genKind env rec (.slice e) = if isByteKind env e then .ok (.prim "bytes") else (rec e).map arraySchema := by
  simp only [genKind, Gen.map]; split
  · rfl
  · cases rec e <;> rfl

theorem genKind_array (env : TEnv) (rec : GoType → Gen Schema) (n : Nat) (e : GoType) :
    genKind env rec (.array n e) = if isByteKind env e then .ok (.prim "bytes") else (rec e).map arraySchema :=
  genKind_slice env rec e

theorem genKind_map (env : TEnv) (rec : GoType → Gen Schema) (k v : GoType) :
    genKind env rec (.map k v) = if isStringKind env k then (rec v).map mapSchema else .err := by
  simp only [genKind, Gen.map]; split
  · cases rec v <;> rfl
  · rfl

theorem genKind_ptr (env : TEnv) (rec : GoType → Gen Schema) (e : GoType) :
    genKind env rec (.ptr e) = (rec e).map ptrWrap := by
  simp only [genKind, Gen.map]; cases rec e <;> rfl

theorem prim_type (t : String) : (Schema.prim t).type = t := rfl
theorem arraySchema_type (u : Schema) : (arraySchema u).type = "array" := rfl
theorem mapSchema_type (u : Schema) : (mapSchema u).type = "map" := rfl
theorem recordSchema_type (nm pkg : String) (sfs : List SchemaField) : (recordSchema nm pkg sfs).type = "record" := rfl
theorem nullable_type (x : Schema) : (nullableSchema x).type = "union" := rfl

theorem nullable_union (x : Schema) : (nullableSchema x).union = [.prim "null", x] := rfl

theorem omitWrap_nullable (oe : Bool) (u : Schema) : omitWrap oe (nullableSchema u) = nullableSchema u := by
  simp [omitWrap, nullable_type]

theorem omitWrap_true {u : Schema} (h : u.type ≠ "union") : omitWrap true u = nullableSchema u := by
  simp [omitWrap, h]

theorem omitWrap_false (u : Schema) : omitWrap false u = u := by
  simp [omitWrap]

theorem ptrWrap_eq_nullable (u : Schema) (h1 : u.type ≠ "union") (h2 : u.type ≠ "array") (h3 : u.type ≠ "map") :
    ptrWrap u = nullableSchema u := by
  simp [ptrWrap, h1, h2, h3]

theorem ptrWrap_eq_self (u : Schema) (h : u.type = "union" ∨ u.type = "array" ∨ u.type = "map") : ptrWrap u = u := by
  rcases h with h | h | h <;> simp [ptrWrap, h]

theorem sregLookup_cases {sreg : SReg} {P : Schema → Prop}
    (lib : ∀ p : String, p ≠ "union" → p ≠ "null" → P (nullableSchema (.prim p)))
    (user : ∀ id s, assocLookup id sreg.custom = some s → P s)
    {t : GoType} {s : Schema} (h : sregLookup sreg t = some s) : P s := by
  cases t <;> simp only [sregLookup] at h <;> try (cases h; done)
  case time => cases h; exact lib _ (by decide) (by decide)
  case nullT k => cases h; cases k <;> exact lib _ (by decide) (by decide)
  case custom => exact user _ _ h

mutual
/-- nesting depth of a type tree; a back-reference counts 1 (one step to resolve it) -/
def GoType.depth : GoType → Nat
  | .slice e | .array _ e | .ptr e => e.depth + 1
  | .custom _ e => e.depth
  | .map _ v => v.depth + 1
  | .struct _ _ fs => GoField.depthList fs + 1
  | .ref _ => 1
  | _ => 0
def GoField.depthList : List GoField → Nat
  | [] => 0
  | .mk _ _ _ _ t :: fs => max t.depth (GoField.depthList fs)
end

theorem GoField.depth_le_depthList {f : GoField} {fs : List GoField} (h : f ∈ fs) :
    f.type.depth ≤ GoField.depthList fs := by
  induction fs with
  | nil => cases h
  | cons g gs ih =>
    obtain ⟨n, e, j, b, t⟩ := g
    simp only [GoField.depthList]
    cases h with
    | head => simp [GoField.type]; omega
    | tail _ h' => have := ih h'; omega

/-- a type is not among parents that are all strictly deeper (a finite type tree does not contain
itself: the self-reference check of `schemaForType` never fires on it) -/
theorem not_among_deeper (t : GoType) (ps : List GoType) (h : ∀ p ∈ ps, t.depth < p.depth) :
    ps.any (GoType.beq t) = false := by
  rw [List.any_eq_false]
  intro p hp hb
  have := GoType.beq_eq hb
  subst this
  exact absurd (h t hp) (Nat.lt_irrefl _)

theorem composite_step {sreg : SReg} {env : TEnv} {fuel : Nat} {ps : List GoType} {t : GoType}
    (h1 : sregLookup sreg t = none) (h2 : t.strip.composite = true) (hr : ∀ n, t ≠ .ref n)
    (hps : ∀ p ∈ ps, t.depth < p.depth) :
    schemaForType sreg env (fuel + 1) ps t = genKind env (schemaForType sreg env fuel (ps ++ [t])) t.strip := by
  rw [mapping_kind h1 hr, if_pos h2, if_neg (by simp [not_among_deeper t ps hps])]

theorem deeper_push {t e : GoType} {ps : List GoType} (hps : ∀ p ∈ ps, t.depth < p.depth) (he : e.depth < t.depth) :
    ∀ p ∈ ps ++ [t], e.depth < p.depth := by
  intro p hp
  rcases List.mem_append.mp hp with hp | hp
  · exact Nat.lt_trans he (hps p hp)
  · rw [List.mem_singleton.mp hp]; exact he

def isPending (env : TEnv) (ps : List GoType) (n : String) : Bool :=
  match env n with
  | some t => !(ps.any (GoType.beq t))
  | none => false

/-- the named types of `names` whose definition is not yet among the parents: what the fuel of
`total_aux` pays for besides depth -/
def pending (env : TEnv) (names : List String) (ps : List GoType) : Nat :=
  names.countP (isPending env ps)

theorem isPending_append {env : TEnv} {ps : List GoType} {x : GoType} {n : String}
    (h : isPending env (ps ++ [x]) n = true) : isPending env ps n = true := by
  unfold isPending at h ⊢
  split at h
  · simp only [List.any_append, Bool.not_or, Bool.and_eq_true] at h; exact h.1
  · cases h

theorem pending_append_le (env : TEnv) (names : List String) (ps : List GoType) (x : GoType) :
    pending env names (ps ++ [x]) ≤ pending env names ps :=
  List.countP_mono_left fun _ _ => isPending_append

theorem pending_push_lt (env : TEnv) (names : List String) (ps : List GoType) (n : String) (t : GoType)
    (hn : n ∈ names) (he : env n = some t) (hp : ps.any (GoType.beq t) = false) :
    pending env names (ps ++ [t]) < pending env names ps := by
  obtain ⟨a, b, rfl⟩ := List.append_of_mem hn
  have h1 : isPending env (ps ++ [t]) n = false := by simp [isPending, he, GoType.beq_refl]
  have h2 : isPending env ps n = true := by simp [isPending, he, hp]
  have ha := pending_append_le env a ps t
  have hb := pending_append_le env b ps t
  simp only [pending, List.countP_append, List.countP_cons, h1, h2] at ha hb ⊢
  simp only [Bool.false_eq_true, if_false, if_true]
  omega

theorem pending_le_length (env : TEnv) (names : List String) (ps : List GoType) :
    pending env names ps ≤ names.length := List.countP_le_length

theorem genFields_no_overflow (rec : GoType → Gen Schema) (fs : List GoField)
    (h : ∀ f ∈ fs, rec f.type ≠ .overflow) : genFields rec fs ≠ .overflow := by
  induction fs with
  | nil => simp [genFields]
  | cons f fs ih =>
    have ih' := ih (fun g hg => h g (List.mem_cons_of_mem _ hg))
    have hf := h f List.mem_cons_self
    simp only [genFields]
    split
    · exact ih'
    · cases h1 : rec f.type with
      | ok s =>
        simp only
        cases h2 : genFields rec fs with
        | ok r => simp
        | err => simp
        | overflow => exact absurd h2 ih'
      | err => simp
      | overflow => exact absurd h1 hf

theorem Gen.map_ne_overflow {α β : Type} {f : α → β} {g : Gen α} (h : g ≠ .overflow) : g.map f ≠ .overflow := by
  cases g <;> first | exact absurd rfl h | nofun

theorem genKind_no_overflow (env : TEnv) (rec : GoType → Gen Schema) (k : GoType)
    (h : ∀ e, e.depth + 1 ≤ k.depth → rec e ≠ .overflow) : genKind env rec k ≠ .overflow := by
  cases k <;> try (intro hh; cases hh; done)
  case slice e =>
    rw [genKind_slice]; split
    · nofun
    · exact Gen.map_ne_overflow (h e (Nat.le_refl _))
  case array n e =>
    rw [genKind_array]; split
    · nofun
    · exact Gen.map_ne_overflow (h e (Nat.le_refl _))
  case map k v =>
    rw [genKind_map]; split
    · exact Gen.map_ne_overflow (h v (Nat.le_refl _))
    · nofun
  case ptr e => rw [genKind_ptr]; exact Gen.map_ne_overflow (h e (Nat.le_refl _))
  case struct name pkg fs =>
    rw [genKind_struct]
    refine Gen.map_ne_overflow (genFields_no_overflow rec fs fun f hf => h f.type ?_)
    have := GoField.depth_le_depthList hf
    simp only [GoType.depth]; omega

/-- hypotheses on the type environment under which generation is total: finitely many named types,
each defined as an actual type (Go has no type whose definition is just another name), of bounded
depth -/
structure EnvBound (env : TEnv) (names : List String) (W : Nat) : Prop where
  fin : ∀ n t, env n = some t → n ∈ names
  notRef : ∀ n t, env n = some t → ∀ m, t ≠ .ref m
  depth : ∀ n t, env n = some t → t.depth ≤ W

theorem genResolved_no_overflow (sreg : SReg) (env : TEnv) (rec : List GoType → GoType → Gen Schema)
    (ps : List GoType) (t : GoType)
    (h2 : ps.any (GoType.beq t) = false → ∀ e, e.depth + 1 ≤ t.depth → rec (ps ++ [t]) e ≠ .overflow) :
    genResolved sreg env rec ps t ≠ .overflow := by
  unfold genResolved
  cases sregLookup sreg t with
  | some s => simp
  | none =>
    simp only
    have hd : t.strip.depth ≤ t.depth := by cases t <;> simp [GoType.strip, GoType.depth]
    by_cases hc : t.strip.composite = true
    · simp only [hc, if_true]
      by_cases hp : ps.any (GoType.beq t) = true
      · simp [hp]
      · simp only [hp, Bool.false_eq_true, if_false]
        exact genKind_no_overflow env _ _ (fun e he => h2 (by simpa using hp) e (by omega))
    · -- the kinds without components never call `rec`
      simp only [hc, Bool.false_eq_true, if_false]
      generalize t.strip = k at hc ⊢
      cases k <;> simp [GoType.composite] at hc <;> simp [genKind]

/-- The measure is `pending · W + depth`: resolving a name pushes its definition on `parents` (`EnvBound.notRef`
makes it a type that is pushed), so it is never resolved again below and each name pays its depth `W` once. -/
theorem total_aux (sreg : SReg) (env : TEnv) (names : List String) (W : Nat) (hb : EnvBound env names W) :
    ∀ fuel ps t, pending env names ps * W + t.depth + 1 ≤ fuel → schemaForType sreg env fuel ps t ≠ .overflow := by
  intro fuel
  induction fuel using Nat.strongRecOn with
  | _ fuel ih =>
    intro ps t hf
    cases fuel with
    | zero => omega
    | succ m =>
      rw [schemaForType_succ]
      by_cases hr : ∃ n, t = .ref n
      · obtain ⟨n, rfl⟩ := hr
        simp only [genStep]
        cases he : env n with
        | none => simp
        | some t' =>
          simp only
          simp only [GoType.depth] at hf
          cases m with
          | zero => omega
          | succ m' =>
            rw [schemaForType_succ, genStep_nonref (hb.notRef n t' he)]
            have hW := hb.depth n t' he
            apply genResolved_no_overflow
            intro hp e hed
            apply ih m' (by omega)
            have hlt := pending_push_lt env names ps n t' (hb.fin n t' he) he hp
            have : (pending env names (ps ++ [t']) + 1) * W ≤ pending env names ps * W :=
              Nat.mul_le_mul_right W hlt
            rw [Nat.add_mul] at this
            omega
      · have hr' : ∀ n, t ≠ .ref n := fun n hn => hr ⟨n, hn⟩
        rw [genStep_nonref hr']
        apply genResolved_no_overflow
        intro _ e hed
        apply ih m (by omega)
        have : pending env names (ps ++ [t]) * W ≤ pending env names ps * W :=
          Nat.mul_le_mul_right W (pending_append_le env names ps t)
        omega

/-- successful runs of the field loop of `schemaForStruct`: fields named "-" are skipped, the others
appear in declaration order under their JSON name, `omitempty` wraps non-union types -/
inductive FieldsOf (rec : GoType → Gen Schema) : List GoField → List SchemaField → Prop
  | nil : FieldsOf rec [] []
  | skip {f fs r} : nameForField f = "-" → FieldsOf rec fs r → FieldsOf rec (f :: fs) r
  | keep {f fs r s} : nameForField f ≠ "-" → rec f.type = .ok s → FieldsOf rec fs r →
      FieldsOf rec (f :: fs) (.mk (nameForField f) (omitWrap (omitEmptyTag f.jsonTag) s) :: r)

theorem genFields_ok_iff (rec : GoType → Gen Schema) (fs : List GoField) (r : List SchemaField) :
    genFields rec fs = .ok r ↔ FieldsOf rec fs r := by
  constructor
  · intro h
    induction fs generalizing r with
    | nil => simp [genFields] at h; subst h; exact .nil
    | cons g gs ih =>
      simp only [genFields] at h
      by_cases hg : nameForField g = "-"
      · simp only [hg, beq_self_eq_true, if_true] at h
        exact .skip hg (ih r h)
      · have hg' : (nameForField g == "-") = false := by simpa using hg
        simp only [hg', Bool.false_eq_true, if_false] at h
        cases h1 : rec g.type with
        | ok s =>
          simp only [h1] at h
          cases h2 : genFields rec gs with
          | ok r' =>
            simp only [h2] at h
            cases h
            exact .keep hg h1 (ih r' h2)
          | err => simp [h2] at h
          | overflow => simp [h2] at h
        | err => simp [h1] at h
        | overflow => simp [h1] at h
  · intro h
    induction h with
    | nil => simp [genFields]
    | skip hn _ ih => simp [genFields, hn, ih]
    | @keep f _ _ _ hn hr _ ih =>
      have hg' : (nameForField f == "-") = false := by simpa using hn
      simp [genFields, hg', hr, ih]

theorem Gen.map_eq_ok {α β : Type} {f : α → β} {g : Gen α} {b : β} :
    g.map f = .ok b ↔ ∃ a, g = .ok a ∧ b = f a := by
  cases g <;> simp [Gen.map, eq_comm]

/-- the kinds whose schema is a primitive type whatever the recursive calls return -/
def primOf (env : TEnv) : GoType → Option String
  | .bool => some "boolean"
  | .int _ => some "long"
  | .float32 | .float64 => some "double"
  | .string => some "string"
  | .slice e | .array _ e => if isByteKind env e then some "bytes" else none
  | _ => none

theorem primOf_plain {env : TEnv} {k : GoType} {t : String} (h : primOf env k = some t) :
    t ≠ "union" ∧ t ≠ "null" := by
  cases k <;> simp only [primOf] at h <;> try (cases h; done)
  case slice | array => split at h <;> cases h; decide
  all_goals (cases h; decide)

/-- successful runs of the kind switch of `schemaForType` over `rec`, the generator for components -/
inductive KindOf (env : TEnv) (rec : GoType → Gen Schema) : GoType → Schema → Prop
  | prim {k t} : primOf env k = some t → KindOf env rec k (.prim t)
  | slice {e u} : isByteKind env e = false → rec e = .ok u → KindOf env rec (.slice e) (arraySchema u)
  | array {n e u} : isByteKind env e = false → rec e = .ok u → KindOf env rec (.array n e) (arraySchema u)
  | map {k v u} : isStringKind env k = true → rec v = .ok u → KindOf env rec (.map k v) (mapSchema u)
  | ptr {e u} : rec e = .ok u → KindOf env rec (.ptr e) (ptrWrap u)
  | struct {name pkg fs r} : FieldsOf rec fs r → KindOf env rec (.struct name pkg fs) (recordSchema name pkg r)

theorem genKind_ok {env : TEnv} {rec : GoType → Gen Schema} {k : GoType} {s : Schema}
    (h : genKind env rec k = .ok s) : KindOf env rec k s := by
  cases k <;> try (cases h; done)
  case bool | int | float32 | float64 | string => cases h; exact .prim rfl
  case slice e =>
    rw [genKind_slice] at h
    cases hb : isByteKind env e <;> simp only [hb, if_true, Bool.false_eq_true, if_false] at h
    · obtain ⟨u, hu, rfl⟩ := Gen.map_eq_ok.mp h; exact .slice hb hu
    · cases h; exact .prim (by simp [primOf, hb])
  case array n e =>
    rw [genKind_array] at h
    cases hb : isByteKind env e <;> simp only [hb, if_true, Bool.false_eq_true, if_false] at h
    · obtain ⟨u, hu, rfl⟩ := Gen.map_eq_ok.mp h; exact .array hb hu
    · cases h; exact .prim (by simp [primOf, hb])
  case map k v =>
    rw [genKind_map] at h
    cases hk : isStringKind env k <;> simp only [hk, if_true, Bool.false_eq_true, if_false] at h
    · cases h
    · obtain ⟨u, hu, rfl⟩ := Gen.map_eq_ok.mp h; exact .map hk hu
  case ptr e =>
    rw [genKind_ptr] at h
    obtain ⟨u, hu, rfl⟩ := Gen.map_eq_ok.mp h; exact .ptr hu
  case struct name pkg fs =>
    rw [genKind_struct] at h
    obtain ⟨r, hr, rfl⟩ := Gen.map_eq_ok.mp h; exact .struct ((genFields_ok_iff _ _ _).mp hr)

/-- `ps'` is `ps`, or `ps ++ [t]` for the composite kinds; no consumer needs to know which -/
theorem gen_succ_inv {sreg : SReg} {env : TEnv} {m : Nat} {ps : List GoType} {t : GoType} {s : Schema}
    (h : schemaForType sreg env (m + 1) ps t = .ok s) :
    sregLookup sreg t = some s ∨
    (∃ n t', t = .ref n ∧ env n = some t' ∧ schemaForType sreg env m ps t' = .ok s) ∨
    (sregLookup sreg t = none ∧ ∃ ps', KindOf env (schemaForType sreg env m ps') t.strip s) := by
  rw [schemaForType_succ] at h
  by_cases hr : ∃ n, t = .ref n
  · obtain ⟨n, rfl⟩ := hr
    simp only [genStep] at h
    cases he : env n with
    | none => simp [he] at h
    | some t' => rw [he] at h; exact .inr (.inl ⟨n, t', rfl, he, h⟩)
  · rw [genStep_nonref (fun n hn => hr ⟨n, hn⟩)] at h
    unfold genResolved at h
    cases hl : sregLookup sreg t with
    | some s' => simp only [hl] at h; cases h; exact .inl rfl
    | none =>
      simp only [hl] at h
      refine .inr (.inr ⟨rfl, ?_⟩)
      split at h
      · split at h
        · cases h
        · exact ⟨_, genKind_ok h⟩
      · exact ⟨_, genKind_ok h⟩

/-- **Rule induction over the successful runs of `schemaForType`**, whatever the fuel and the parents -/
theorem gen_induct {sreg : SReg} {env : TEnv} {P : GoType → Schema → Prop}
    (reg : ∀ t s, sregLookup sreg t = some s → P t s)
    (ref : ∀ n t s, env n = some t → P t s → P (.ref n) s)
    (kind : ∀ rec t s, (∀ t' s', rec t' = .ok s' → P t' s') → sregLookup sreg t = none →
      KindOf env rec t.strip s → P t s) :
    ∀ fuel ps t s, schemaForType sreg env fuel ps t = .ok s → P t s := by
  intro fuel
  induction fuel with
  | zero => intro ps t s h; cases h
  | succ m ih =>
    intro ps t s h
    rcases gen_succ_inv h with h | ⟨n, t', rfl, he, h⟩ | ⟨hl, ps', hk⟩
    · exact reg t s h
    · exact ref n t' s he (ih ps t' s h)
    · exact kind _ t s (fun t' s' h' => ih ps' t' s' h') hl hk

theorem gen_registered_inv {sreg : SReg} {env : TEnv} {fuel : Nat} {ps : List GoType} {t : GoType} {rs S : Schema}
    (hs : sregLookup sreg t = some rs) (h : schemaForType sreg env fuel ps t = .ok S) : S = rs := by
  cases fuel with
  | zero => cases h
  | succ m =>
    rcases gen_succ_inv h with h | ⟨n, _, rfl, _⟩ | ⟨hl, _⟩
    · rw [hs] at h; cases h; rfl
    · cases hs
    · rw [hs] at hl; cases hl

theorem gen_kind_inv {sreg : SReg} {env : TEnv} {fuel : Nat} {ps : List GoType} {t : GoType} {s : Schema}
    (h1 : sregLookup sreg t = none) (hr : ∀ n, t ≠ .ref n) (h : schemaForType sreg env fuel ps t = .ok s) :
    ∃ m ps', m < fuel ∧ KindOf env (schemaForType sreg env m ps') t.strip s := by
  cases fuel with
  | zero => cases h
  | succ m =>
    rcases gen_succ_inv h with h | ⟨n, _, rfl, _⟩ | ⟨_, ps', hk⟩
    · rw [h1] at h; cases h
    · exact absurd rfl (hr n)
    · exact ⟨m, ps', Nat.lt_succ_self m, hk⟩

/-- **Congruence in the registry**: on a set `Q` of types that is closed under what a call looks at
(the definitions of back-references, the components the kind switch recurses on), two registries that
answer every lookup in `Q` alike generate the same result, for every fuel and every list of parents. -/
theorem gen_congr {sreg sreg' : SReg} {env : TEnv} (Q : GoType → Prop)
    (hl : ∀ t, Q t → sregLookup sreg t = sregLookup sreg' t)
    (he : ∀ n t, Q (.ref n) → env n = some t → Q t)
    (hk : ∀ rec rec' t, Q t → (∀ e, Q e → rec e = rec' e) → genKind env rec t.strip = genKind env rec' t.strip) :
    ∀ fuel ps t, Q t → schemaForType sreg env fuel ps t = schemaForType sreg' env fuel ps t := by
  intro fuel
  induction fuel with
  | zero => intro ps t _; rfl
  | succ m ih =>
    intro ps t hT
    rw [schemaForType_succ, schemaForType_succ]
    by_cases hr : ∃ n, t = .ref n
    · obtain ⟨n, rfl⟩ := hr
      simp only [genStep]
      cases hn : env n with
      | none => rfl
      | some t' => exact ih ps t' (he n t' hT hn)
    · have hr' : ∀ n, t ≠ .ref n := fun n hn => hr ⟨n, hn⟩
      rw [genStep_nonref hr', genStep_nonref hr']
      unfold genResolved
      rw [hl t hT, hk _ _ t hT (fun e => ih (ps ++ [t]) e), hk (schemaForType sreg env m ps) _ t hT (fun e => ih ps e)]

/-- a position inside a type tree: the path from the root to the hole through pointers, slices, arrays,
map values and struct fields (with arbitrary sibling fields before and after) -/
inductive Ctx where
  | hole
  | ptr (c : Ctx)
  | slice (c : Ctx)
  | array (n : Nat) (c : Ctx)
  | map (k : GoType) (c : Ctx)
  | field (name pkg : String) (pre : List GoField) (fname jsonTag bqTag : String) (c : Ctx) (post : List GoField)

def Ctx.fill : Ctx → GoType → GoType
  | .hole, x => x
  | .ptr c, x => .ptr (c.fill x)
  | .slice c, x => .slice (c.fill x)
  | .array n c, x => .array n (c.fill x)
  | .map k c, x => .map k (c.fill x)
  | .field name pkg pre fname j b c post, x =>
    .struct name pkg (pre ++ GoField.mk fname true j b (c.fill x) :: post)

/-- every field on the path to the hole is part of the schema (exported, not excluded by a tag) -/
def Ctx.Included : Ctx → Prop
  | .hole => True
  | .ptr c | .slice c | .array _ c | .map _ c => c.Included
  | .field _ _ _ fname j b c _ => nameForField (.mk fname true j b .bool) ≠ "-" ∧ c.Included

theorem nameForField_type_irrel (n : String) (e : Bool) (j b : String) (t t' : GoType) :
    nameForField (.mk n e j b t) = nameForField (.mk n e j b t') := rfl

theorem isByteKind_fill (env : TEnv) (c : Ctx) (x : GoType) (hx : isByteKind env x = false) :
    isByteKind env (c.fill x) = false := by
  cases c <;> simp [Ctx.fill, isByteKind, resolve, GoType.strip] <;> exact hx

/-- `CtxSchema c h S`: `S` is the schema of a type with the schema `h` at the hole of `c`: pointers wrap
by `ptrWrap`, slices and arrays give arrays, maps give maps, a struct gives a record whose field at the
path's position carries the (possibly `omitempty`-wrapped) schema below it -/
inductive CtxSchema : Ctx → Schema → Schema → Prop
  | hole (h : Schema) : CtxSchema .hole h h
  | ptr {c : Ctx} {h u : Schema} : CtxSchema c h u → CtxSchema (.ptr c) h (ptrWrap u)
  | slice {c : Ctx} {h u : Schema} : CtxSchema c h u → CtxSchema (.slice c) h (arraySchema u)
  | array {c : Ctx} {h u : Schema} (n : Nat) : CtxSchema c h u → CtxSchema (.array n c) h (arraySchema u)
  | map {c : Ctx} {h u : Schema} (k : GoType) : CtxSchema c h u → CtxSchema (.map k c) h (mapSchema u)
  | field {c : Ctx} {h u : Schema} (name pkg : String) (pre post : List GoField) (fname j bq : String)
      (pre' post' : List SchemaField) :
      CtxSchema c h u → pre'.length = ((pre.map nameForField).filter (· != "-")).length →
      CtxSchema (.field name pkg pre fname j bq c post) h
        (recordSchema name pkg (pre' ++ SchemaField.mk (nameForField (.mk fname true j bq .bool))
          (omitWrap (omitEmptyTag j) u) :: post'))

theorem fieldsOf_split (rec : GoType → Gen Schema) (pre post : List GoField) (f : GoField)
    (hf : nameForField f ≠ "-") :
    ∀ r, FieldsOf rec (pre ++ f :: post) r →
      ∃ pre' post' s, r = pre' ++ SchemaField.mk (nameForField f) (omitWrap (omitEmptyTag f.jsonTag) s) :: post' ∧
        rec f.type = .ok s ∧ pre'.length = ((pre.map nameForField).filter (· != "-")).length := by
  induction pre with
  | nil =>
    intro r h
    simp only [List.nil_append] at h
    cases h with
    | skip hn _ => exact absurd hn hf
    | keep _ hr hrest => exact ⟨[], _, _, rfl, hr, rfl⟩
  | cons g gs ih =>
    intro r h
    simp only [List.cons_append] at h
    cases h with
    | skip hn hrest =>
      obtain ⟨pre', post', s, h1, h2, h3⟩ := ih _ hrest
      exact ⟨pre', post', s, h1, h2, by simp [hn, h3]⟩
    | keep hn hr hrest =>
      obtain ⟨pre', post', s, h1, h2, h3⟩ := ih _ hrest
      exact ⟨_ :: pre', post', s, by rw [h1]; rfl, h2, by simp [hn, h3]⟩

/-- **Descent to a position**: a successful run on `c[x]` contains a successful run on `x` (with less
fuel unless `c` is the hole), and the schema of the whole is the schema found at the hole wrapped by
exactly the wrappers of the path. -/
theorem gen_ctx {sreg : SReg} {env : TEnv} {x : GoType} (hxb : isByteKind env x = false) :
    ∀ (c : Ctx), c.Included → ∀ fuel ps S, schemaForType sreg env fuel ps (c.fill x) = .ok S →
      ∃ m ps' h, m ≤ fuel ∧ (c ≠ .hole → m < fuel) ∧ schemaForType sreg env m ps' x = .ok h ∧
        CtxSchema c h S := by
  intro c
  induction c with
  | hole => intro _ fuel ps S h; exact ⟨fuel, ps, S, Nat.le_refl _, fun hc => absurd rfl hc, h, .hole S⟩
  | ptr c ih =>
    intro hi fuel ps S h
    simp only [Ctx.fill] at h
    obtain ⟨m, ps', hm, hk⟩ := gen_kind_inv rfl (fun _ => GoType.noConfusion) h
    cases hk with
    | prim hp => cases hp
    | ptr hu =>
      obtain ⟨m', ps'', h', hle, _, hx, hc⟩ := ih hi m ps' _ hu
      exact ⟨m', ps'', h', by omega, fun _ => by omega, hx, .ptr hc⟩
  | slice c ih =>
    intro hi fuel ps S h
    simp only [Ctx.fill] at h
    obtain ⟨m, ps', hm, hk⟩ := gen_kind_inv rfl (fun _ => GoType.noConfusion) h
    cases hk with
    | prim hp => simp [GoType.strip, primOf, isByteKind_fill env c x hxb] at hp
    | slice _ hu =>
      obtain ⟨m', ps'', h', hle, _, hx, hc⟩ := ih hi m ps' _ hu
      exact ⟨m', ps'', h', by omega, fun _ => by omega, hx, .slice hc⟩
  | array n c ih =>
    intro hi fuel ps S h
    simp only [Ctx.fill] at h
    obtain ⟨m, ps', hm, hk⟩ := gen_kind_inv rfl (fun _ => GoType.noConfusion) h
    cases hk with
    | prim hp => simp [GoType.strip, primOf, isByteKind_fill env c x hxb] at hp
    | array _ hu =>
      obtain ⟨m', ps'', h', hle, _, hx, hc⟩ := ih hi m ps' _ hu
      exact ⟨m', ps'', h', by omega, fun _ => by omega, hx, .array n hc⟩
  | map k c ih =>
    intro hi fuel ps S h
    simp only [Ctx.fill] at h
    obtain ⟨m, ps', hm, hk⟩ := gen_kind_inv rfl (fun _ => GoType.noConfusion) h
    cases hk with
    | prim hp => cases hp
    | map _ hu =>
      obtain ⟨m', ps'', h', hle, _, hx, hc⟩ := ih hi m ps' _ hu
      exact ⟨m', ps'', h', by omega, fun _ => by omega, hx, .map k hc⟩
  | field name pkg pre fname j bq c post ih =>
    intro hi fuel ps S h
    simp only [Ctx.fill] at h
    obtain ⟨m, ps', hm, hk⟩ := gen_kind_inv rfl (fun _ => GoType.noConfusion) h
    cases hk with
    | prim hp => cases hp
    | struct hf =>
      obtain ⟨pre', post', u, rfl, hu, hlen⟩ := fieldsOf_split _ pre post (.mk fname true j bq (c.fill x)) hi.1 _ hf
      obtain ⟨m', ps'', h', hle, _, hx, hc⟩ := ih hi.2 m ps' _ hu
      exact ⟨m', ps'', h', by omega, fun _ => by omega, hx, .field name pkg pre post fname j bq pre' post' hc hlen⟩

end Avro
