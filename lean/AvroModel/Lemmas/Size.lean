import AvroModel.Sem
/-!
Size measures of codec trees, Go values and Avro data, in which the explicit step budgets are
expressed (`write_stable`, `readBudget`, `goBudget`).
-/
namespace Avro

mutual
def Codec.sz : Codec → Nat
  | .array item _ => item.sz + 1
  | .map val _ => val.sz + 1
  | .pointer c => c.sz + 1
  | .record _ cs _ => Codec.szList cs + 1
  | .union cs => Codec.szList cs + 1
  | .unionOne c _ => c.sz + 1
  | _ => 0
def Codec.szList : List Codec → Nat
  | [] => 0
  | c :: cs => c.sz + Codec.szList cs + 1
end

mutual
def GoVal.sz : GoVal → Nat
  | .slice items => GoVal.szList items + 1
  | .map _ _ vs => GoVal.szList vs + 1
  | .ptr (some x) => x.sz + 1
  | .struct fs => GoVal.szList fs + 1
  | _ => 0
def GoVal.szList : List GoVal → Nat
  | [] => 0
  | g :: gs => g.sz + GoVal.szList gs + 1
end

mutual
def Value.sz : Value → Nat
  | .record fs => Value.szList fs + 1
  | .array items => Value.szList items + 1
  | .map _ vs => Value.szList vs + 1
  | .union _ v => v.sz + 1
  | _ => 0
def Value.szList : List Value → Nat
  | [] => 0
  | v :: vs => v.sz + Value.szList vs + 1
end

example : Codec.sz (.record [] [.array (.int 64 false) false, .null] []) = 4 := rfl

/-! The three list measures have one shape, `szl (a :: as) = sz a + szl as + 1`; what follows from
the shape is proved once. -/

theorem length_le_szList {α : Type} {sz : α → Nat} {szl : List α → Nat}
    (hc : ∀ a as, szl (a :: as) = sz a + szl as + 1) : ∀ l : List α, l.length ≤ szl l
  | [] => Nat.zero_le _
  | a :: as => by
    have := length_le_szList hc as
    rw [hc, List.length_cons]; omega

theorem sz_le_of_getElem? {α : Type} {sz : α → Nat} {szl : List α → Nat}
    (hc : ∀ a as, szl (a :: as) = sz a + szl as + 1) : ∀ (l : List α) (i : Nat) (a : α), l[i]? = some a → sz a ≤ szl l
  | [], _, _, h => by cases h
  | b :: as, 0, a, h => by
    cases h; rw [hc]; omega
  | b :: as, i + 1, a, h => by
    have := sz_le_of_getElem? hc as i a h
    rw [hc]; omega

theorem Codec.length_le_szList : ∀ cs : List Codec, cs.length ≤ Codec.szList cs :=
  Avro.length_le_szList (sz := Codec.sz) fun _ _ => rfl

theorem GoVal.length_le_szList : ∀ gs : List GoVal, gs.length ≤ GoVal.szList gs :=
  Avro.length_le_szList (sz := GoVal.sz) fun _ _ => rfl

theorem Codec.sz_le_of_getElem? {cs : List Codec} {i : Nat} {c : Codec} (h : cs[i]? = some c) : c.sz ≤ Codec.szList cs :=
  Avro.sz_le_of_getElem? (fun _ _ => rfl) cs i c h

theorem GoVal.sz_le_of_getElem? {fs : List GoVal} {i : Nat} {v : GoVal} (h : fs[i]? = some v) : v.sz ≤ GoVal.szList fs :=
  Avro.sz_le_of_getElem? (fun _ _ => rfl) fs i v h

theorem Value.szList_append (a b : List Value) : Value.szList (a ++ b) = Value.szList a + Value.szList b := by
  induction a with
  | nil => simp [Value.szList]
  | cons v a ih => simp only [List.cons_append, Value.szList, ih]; omega

theorem Value.length_le_szList : ∀ (vs : List Value), vs.length ≤ Value.szList vs :=
  Avro.length_le_szList (sz := Value.sz) fun _ _ => rfl

theorem Value.szList_pos {vs : List Value} (h : vs ≠ []) : 0 < Value.szList vs :=
  Nat.lt_of_lt_of_le (List.length_pos_iff.mpr h) (Value.length_le_szList vs)

end Avro
