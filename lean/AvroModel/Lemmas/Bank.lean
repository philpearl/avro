import AvroModel.Bank
/-!
The invariant `Inv` of the bank state machine, and `Inv` of the world each operation leaves behind, written out as
a record (`closedBank`, `allocWorld`, `tsWorld`, …). That these records are what `step` returns is shown in
`Props/C10.lean`.
-/
namespace Avro.BankL
open Avro.Bank

def TypDistinct (l : List Arena) : Prop := l.Pairwise fun a1 a2 => a1.typ ≠ a2.typ

theorem findArena_typ (τ : Nat) (l : List Arena) : (findArena τ l).typ = τ := by
  induction l with
  | nil => rfl
  | cons a as ih => simp only [findArena]; split <;> simp_all

theorem findArena_mem (τ : Nat) (l : List Arena) : findArena τ l ∈ l ∨ findArena τ l = Arena.new τ := by
  induction l with
  | nil => right; rfl
  | cons a as ih =>
    simp only [findArena]; split
    · left; exact List.mem_cons_self
    · rcases ih with h | h
      · left; exact List.mem_cons_of_mem _ h
      · right; exact h

theorem updArena_self (τ : Nat) (f : Arena → Arena) (l : List Arena) : f (findArena τ l) ∈ updArena τ f l := by
  induction l with
  | nil => simp [findArena, updArena]
  | cons a as ih =>
    simp only [findArena, updArena]; split
    · exact List.mem_cons_self
    · exact List.mem_cons_of_mem _ ih

theorem mem_updArena {τ : Nat} {f : Arena → Arena} {l : List Arena} (hd : TypDistinct l) {y : Arena}
    (hy : y ∈ updArena τ f l) : y = f (findArena τ l) ∨ (y ∈ l ∧ y.typ ≠ τ) := by
  induction l with
  | nil => simp [updArena, findArena] at hy ⊢; exact hy
  | cons a as ih =>
    have hd' := List.pairwise_cons.mp hd
    simp only [updArena, findArena] at hy ⊢
    split at hy
    · rename_i ha
      simp only [ha, if_true]
      rcases List.mem_cons.mp hy with h | h
      · left; exact h
      · right; refine ⟨List.mem_cons_of_mem _ h, ?_⟩
        have := hd'.1 y h
        intro hty; exact this (by rw [ha, hty])
    · rename_i ha
      simp only [ha, if_false]
      rcases List.mem_cons.mp hy with h | h
      · right; subst h; exact ⟨List.mem_cons_self, ha⟩
      · rcases ih hd'.2 h with h' | ⟨h1, h2⟩
        · left; exact h'
        · right; exact ⟨List.mem_cons_of_mem _ h1, h2⟩

theorem updArena_distinct {τ : Nat} {f : Arena → Arena} {l : List Arena} (hf : ∀ a, (f a).typ = a.typ)
    (hd : TypDistinct l) : TypDistinct (updArena τ f l) := by
  induction l with
  | nil => simp [updArena, TypDistinct]
  | cons a as ih =>
    have hd' := List.pairwise_cons.mp hd
    simp only [updArena]
    split
    · refine List.pairwise_cons.mpr ⟨?_, hd'.2⟩
      intro y hy; rw [hf]; exact hd'.1 y hy
    · rename_i ha
      refine List.pairwise_cons.mpr ⟨?_, ih hd'.2⟩
      intro y hy
      rcases mem_updArena hd'.2 hy with h | ⟨h1, _⟩
      · rw [h, hf, findArena_typ]; exact ha
      · exact hd'.1 y h1

theorem grow_typ (a : Arena) (n nc : Nat) : (a.grow n nc).typ = a.typ := by
  unfold Arena.grow; split <;> rfl

theorem take_typ (a : Arena) (n nc : Nat) : (a.take n nc).typ = a.typ := by
  simp [Arena.take, grow_typ]

theorem grow_full {a : Arena} (n : Nat) {nc : Nat} (h : a.len = a.cap) (hnc : a.cap < nc) :
    (a.grow n nc).arr = some n ∧ (a.grow n nc).len = a.len ∧ a.len < (a.grow n nc).cap := by
  unfold Arena.grow; simp only [h, if_true]
  exact ⟨trivial, trivial, hnc⟩

theorem grow_spare {a : Arena} {n nc : Nat} (h : a.len ≠ a.cap) : a.grow n nc = a := by
  unfold Arena.grow; simp [h]

def CellNe (h1 h2 : Handle) : Prop := ¬ (h1.arr = h2.arr ∧ h1.idx = h2.idx)

def RangeDisj (s1 s2 : SHandle) : Prop :=
  ∀ x, s1.arr = some x → s2.arr = some x → s1.start + s1.len ≤ s2.start ∨ s2.start + s2.len ≤ s1.start

structure TInv (w : World) : Prop where
  t0 : ∀ h ∈ w.issued, h.bank < w.nbanks
  /-- a live pointer into the current array of an arena belongs to that arena's bank and lies below `len` -/
  t1 : ∀ h ∈ w.issued, w.Live h → ∀ b, ∀ a ∈ (w.banks b).arenas, a.arr = some h.arr → h.bank = b ∧ h.idx < a.len
  t2 : ∀ h ∈ w.issued, h.arr < w.nextArr
  /-- an array is the current array of at most one arena -/
  t3 : ∀ b1 b2 a1 a2 x, a1 ∈ (w.banks b1).arenas → a2 ∈ (w.banks b2).arenas → a1.arr = some x → a2.arr = some x →
        b1 = b2 ∧ a1.typ = a2.typ
  t4 : ∀ b, ∀ a ∈ (w.banks b).arenas, ∀ x, a.arr = some x → x < w.nextArr
  t5 : ∀ h ∈ w.issued, h.epoch ≤ (w.banks h.bank).epoch
  t6 : w.issued.Pairwise fun h1 h2 => w.Live h1 → w.Live h2 → CellNe h1 h2
  t7 : ∀ b, TypDistinct (w.banks b).arenas
  t8 : ∀ b, ∀ a ∈ (w.banks b).arenas, a.len ≤ a.cap ∧ (a.arr = none → a.cap = 0)

structure SInv (w : World) : Prop where
  s0 : ∀ s ∈ w.sissued, s.bank < w.nbanks
  /-- a live string in the current array of a bank's `sData` belongs to that bank and ends below `len` -/
  s1 : ∀ s ∈ w.sissued, w.SLive s → ∀ x, s.arr = some x → ∀ b, (w.banks b).sdata.arr = some x →
        s.bank = b ∧ s.start + s.len ≤ (w.banks b).sdata.len
  s2 : ∀ s ∈ w.sissued, ∀ x, s.arr = some x → x < w.nextSArr
  s3 : ∀ b1 b2 x, (w.banks b1).sdata.arr = some x → (w.banks b2).sdata.arr = some x → b1 = b2
  s4 : ∀ b x, (w.banks b).sdata.arr = some x → x < w.nextSArr
  s5 : ∀ s ∈ w.sissued, s.epoch ≤ (w.banks s.bank).epoch
  s6 : w.sissued.Pairwise fun s1 s2 => w.SLive s1 → w.SLive s2 → RangeDisj s1 s2
  s8 : ∀ b, (w.banks b).sdata.len ≤ (w.banks b).sdata.cap ∧ ((w.banks b).sdata.arr = none → (w.banks b).sdata.cap = 0)

structure Inv (w : World) : Prop where
  t : TInv w
  s : SInv w

theorem inv_init : Inv init := by
  constructor
  · constructor <;> simp [init, BankSt.fresh, TypDistinct]
  · constructor <;> simp [init, BankSt.fresh]

theorem TInv.congr {w w' : World} (h : TInv w)
    (ha : ∀ b, (w'.banks b).arenas = (w.banks b).arenas) (he : ∀ b, (w'.banks b).epoch = (w.banks b).epoch)
    (hn : w'.nbanks = w.nbanks) (hx : w'.nextArr = w.nextArr) (hi : w'.issued = w.issued) : TInv w' := by
  have hl : ∀ x, w'.Live x ↔ w.Live x := fun x => by simp [World.Live, he]
  constructor
  · simpa [hi, hn] using h.t0
  · simpa [hi, hl, ha] using h.t1
  · simpa [hi, hx] using h.t2
  · simpa [ha] using h.t3
  · simpa [ha, hx] using h.t4
  · simpa [hi, he] using h.t5
  · simpa [hi, hl] using h.t6
  · simpa [ha] using h.t7
  · simpa [ha] using h.t8

theorem SInv.congr {w w' : World} (h : SInv w)
    (ha : ∀ b, (w'.banks b).sdata = (w.banks b).sdata) (he : ∀ b, (w'.banks b).epoch = (w.banks b).epoch)
    (hn : w'.nbanks = w.nbanks) (hx : w'.nextSArr = w.nextSArr) (hi : w'.sissued = w.sissued) : SInv w' := by
  have hl : ∀ x, w'.SLive x ↔ w.SLive x := fun x => by simp [World.SLive, he]
  constructor
  · simpa [hi, hn] using h.s0
  · simpa [hi, hl, ha] using h.s1
  · simpa [hi, hx] using h.s2
  · simpa [ha] using h.s3
  · simpa [ha, hx] using h.s4
  · simpa [hi, he] using h.s5
  · simpa [hi, hl] using h.s6
  · simpa [ha] using h.s8

/-! ## frame: a step changes one bank and hands out at most one handle -/

theorem upd_same {α : Type} (f : Nat → α) (i : Nat) (v : α) : upd f i v i = v := by simp [upd]
theorem upd_other {α : Type} {f : Nat → α} {i j : Nat} {v : α} (h : j ≠ i) : upd f i v j = f j := by simp [upd, h]

theorem upd_self {α : Type} (f : Nat → α) (i : Nat) : upd f i (f i) = f := by
  funext j; simp only [upd]; split
  · rename_i h; rw [h]
  · rfl

theorem upd_proj {α β : Type} {f : Nat → α} {b : Nat} {v : α} (p : α → β) (h : p v = p (f b)) (b' : Nat) :
    p (upd f b v b') = p (f b') := by
  by_cases hb : b' = b
  · rw [hb, upd_same, h]
  · rw [upd_other hb]

/-- What replacing bank `b` by `bk'` (epoch not smaller) does to an epoch `e ≤` that of bank `c`: the part of the
frame lemmas that pointers and strings share. -/
theorem epoch_setBank {banks : Nat → BankSt} {b c e : Nat} {bk' : BankSt}
    (hep : c = b → (banks b).epoch ≤ bk'.epoch) (he : e ≤ (banks c).epoch) :
    e ≤ (upd banks b bk' c).epoch ∧ ((upd banks b bk' c).epoch = e → (banks c).epoch = e) := by
  by_cases hc : c = b
  · subst hc
    have := hep rfl
    rw [upd_same]; exact ⟨by omega, fun _ => by omega⟩
  · rw [upd_other hc]; exact ⟨he, id⟩

/-- Frame for the typed arenas: only bank `b` changes (to `bk'`), no pointer is issued. What has to be shown is
about the arenas of `bk'` alone. -/
theorem TInv.setBank {w w' : World} (hT : TInv w) {b : Nat} {bk' : BankSt}
    (hbanks : w'.banks = upd w.banks b bk') (hnb : w.nbanks ≤ w'.nbanks) (hnx : w.nextArr ≤ w'.nextArr)
    (hiss : w'.issued = w.issued) (hep : b < w.nbanks → (w.banks b).epoch ≤ bk'.epoch)
    (hdist : TypDistinct bk'.arenas)
    (hcap : ∀ a ∈ bk'.arenas, a.len ≤ a.cap ∧ (a.arr = none → a.cap = 0))
    (harr : ∀ a ∈ bk'.arenas, ∀ x, a.arr = some x →
      x < w'.nextArr ∧ (∀ b' a', b' ≠ b → a' ∈ (w.banks b').arenas → a'.arr ≠ some x) ∧
      (∀ a' ∈ bk'.arenas, a'.arr = some x → a.typ = a'.typ) ∧
      (∀ h ∈ w.issued, w.Live h → w'.Live h → h.arr = x → h.bank = b ∧ h.idx < a.len)) : TInv w' := by
  have hsame : w'.banks b = bk' := by rw [hbanks]; exact upd_same _ _ _
  have hot : ∀ b', b' ≠ b → w'.banks b' = w.banks b' := fun b' h => by rw [hbanks]; exact upd_other h
  have hE := fun h (hh : h ∈ w.issued) =>
    epoch_setBank (bk' := bk') (fun e => hep (e ▸ hT.t0 h hh)) (hT.t5 h hh)
  have hlive : ∀ h ∈ w.issued, w'.Live h → w.Live h := fun h hh hl => (hE h hh).2 (hbanks ▸ hl)
  constructor
  · intro h hh; rw [hiss] at hh; exact Nat.lt_of_lt_of_le (hT.t0 h hh) hnb
  · intro h hh hl b' a ha hx
    rw [hiss] at hh
    have hl0 := hlive h hh hl
    by_cases hb : b' = b
    · subst hb; rw [hsame] at ha
      exact (harr a ha _ hx).2.2.2 h hh hl0 hl rfl
    · rw [hot _ hb] at ha; exact hT.t1 h hh hl0 b' a ha hx
  · intro h hh; rw [hiss] at hh; exact Nat.lt_of_lt_of_le (hT.t2 h hh) hnx
  · intro b1 b2 a1 a2 x h1 h2 hx1 hx2
    by_cases hb1 : b1 = b
    · subst hb1; rw [hsame] at h1
      by_cases hb2 : b2 = b1
      · subst hb2; rw [hsame] at h2
        exact ⟨rfl, (harr a1 h1 x hx1).2.2.1 a2 h2 hx2⟩
      · rw [hot _ hb2] at h2; exact absurd hx2 ((harr a1 h1 x hx1).2.1 b2 a2 hb2 h2)
    · rw [hot _ hb1] at h1
      by_cases hb2 : b2 = b
      · subst hb2; rw [hsame] at h2; exact absurd hx1 ((harr a2 h2 x hx2).2.1 b1 a1 hb1 h1)
      · rw [hot _ hb2] at h2; exact hT.t3 b1 b2 a1 a2 x h1 h2 hx1 hx2
  · intro b' a ha x hx
    by_cases hb : b' = b
    · subst hb; rw [hsame] at ha; exact (harr a ha x hx).1
    · rw [hot _ hb] at ha; exact Nat.lt_of_lt_of_le (hT.t4 b' a ha x hx) hnx
  · intro h hh; rw [hiss] at hh; rw [hbanks]; exact (hE h hh).1
  · rw [hiss]
    refine List.Pairwise.imp_of_mem ?_ hT.t6
    intro h1 h2 hh1 hh2 hR l1 l2
    exact hR (hlive h1 hh1 l1) (hlive h2 hh2 l2)
  · intro b'
    by_cases hb : b' = b
    · subst hb; rw [hsame]; exact hdist
    · rw [hot _ hb]; exact hT.t7 b'
  · intro b' a ha
    by_cases hb : b' = b
    · subst hb; rw [hsame] at ha; exact hcap a ha
    · rw [hot _ hb] at ha; exact hT.t8 b' a ha

/-- One more pointer is handed out, the banks stay as they are. -/
theorem TInv.issue {w : World} (hT : TInv w) (h : Handle) (hb : h.bank < w.nbanks) (hx : h.arr < w.nextArr)
    (he : h.epoch ≤ (w.banks h.bank).epoch)
    (hin : ∀ b, ∀ a ∈ (w.banks b).arenas, a.arr = some h.arr → h.bank = b ∧ h.idx < a.len)
    (hne : ∀ h0 ∈ w.issued, w.Live h0 → CellNe h h0) : TInv { w with issued := h :: w.issued } :=
  ⟨List.forall_mem_cons.mpr ⟨hb, hT.t0⟩, List.forall_mem_cons.mpr ⟨fun _ => hin, hT.t1⟩,
   List.forall_mem_cons.mpr ⟨hx, hT.t2⟩, hT.t3, hT.t4, List.forall_mem_cons.mpr ⟨he, hT.t5⟩,
   List.pairwise_cons.mpr ⟨fun h0 hh0 _ hl0 => hne h0 hh0 hl0, hT.t6⟩, hT.t7, hT.t8⟩

/-- The same frame for the string arena of `bk'`. -/
theorem SInv.setBank {w w' : World} (hS : SInv w) {b : Nat} {bk' : BankSt}
    (hbanks : w'.banks = upd w.banks b bk') (hnb : w.nbanks ≤ w'.nbanks) (hnx : w.nextSArr ≤ w'.nextSArr)
    (hiss : w'.sissued = w.sissued) (hep : b < w.nbanks → (w.banks b).epoch ≤ bk'.epoch)
    (hcap : bk'.sdata.len ≤ bk'.sdata.cap ∧ (bk'.sdata.arr = none → bk'.sdata.cap = 0))
    (harr : ∀ x, bk'.sdata.arr = some x →
      x < w'.nextSArr ∧ (∀ b', b' ≠ b → (w.banks b').sdata.arr ≠ some x) ∧
      (∀ s ∈ w.sissued, w.SLive s → w'.SLive s → s.arr = some x →
        s.bank = b ∧ s.start + s.len ≤ bk'.sdata.len)) : SInv w' := by
  have hsame : w'.banks b = bk' := by rw [hbanks]; exact upd_same _ _ _
  have hot : ∀ b', b' ≠ b → w'.banks b' = w.banks b' := fun b' h => by rw [hbanks]; exact upd_other h
  have hE := fun s (hs : s ∈ w.sissued) =>
    epoch_setBank (bk' := bk') (fun e => hep (e ▸ hS.s0 s hs)) (hS.s5 s hs)
  have hlive : ∀ s ∈ w.sissued, w'.SLive s → w.SLive s := fun s hs hl => (hE s hs).2 (hbanks ▸ hl)
  constructor
  · intro s hs; rw [hiss] at hs; exact Nat.lt_of_lt_of_le (hS.s0 s hs) hnb
  · intro s hs hl x hx b' hbx
    rw [hiss] at hs
    have hl0 := hlive s hs hl
    by_cases hb : b' = b
    · subst hb; rw [hsame] at hbx ⊢
      exact (harr x hbx).2.2 s hs hl0 hl hx
    · rw [hot _ hb] at hbx ⊢; exact hS.s1 s hs hl0 x hx b' hbx
  · intro s hs x hx; rw [hiss] at hs; exact Nat.lt_of_lt_of_le (hS.s2 s hs x hx) hnx
  · intro b1 b2 x h1 h2
    by_cases hb1 : b1 = b
    · by_cases hb2 : b2 = b
      · rw [hb1, hb2]
      · rw [hb1, hsame] at h1; rw [hot _ hb2] at h2; exact absurd h2 ((harr x h1).2.1 b2 hb2)
    · rw [hot _ hb1] at h1
      by_cases hb2 : b2 = b
      · rw [hb2, hsame] at h2; exact absurd h1 ((harr x h2).2.1 b1 hb1)
      · rw [hot _ hb2] at h2; exact hS.s3 b1 b2 x h1 h2
  · intro b' x hx
    by_cases hb : b' = b
    · rw [hb, hsame] at hx; exact (harr x hx).1
    · rw [hot _ hb] at hx; exact Nat.lt_of_lt_of_le (hS.s4 b' x hx) hnx
  · intro s hs; rw [hiss] at hs; rw [hbanks]; exact (hE s hs).1
  · rw [hiss]
    refine List.Pairwise.imp_of_mem ?_ hS.s6
    intro s1 s2 hs1 hs2 hR l1 l2
    exact hR (hlive s1 hs1 l1) (hlive s2 hs2 l2)
  · intro b'
    by_cases hb : b' = b
    · rw [hb, hsame]; exact hcap
    · rw [hot _ hb]; exact hS.s8 b'

theorem SInv.issue {w : World} (hS : SInv w) (s : SHandle) (hb : s.bank < w.nbanks)
    (he : s.epoch ≤ (w.banks s.bank).epoch) (hx : ∀ x, s.arr = some x → x < w.nextSArr)
    (hin : ∀ x, s.arr = some x → ∀ b, (w.banks b).sdata.arr = some x →
      s.bank = b ∧ s.start + s.len ≤ (w.banks b).sdata.len)
    (hne : ∀ s0 ∈ w.sissued, w.SLive s0 → RangeDisj s s0) : SInv { w with sissued := s :: w.sissued } :=
  ⟨List.forall_mem_cons.mpr ⟨hb, hS.s0⟩, List.forall_mem_cons.mpr ⟨fun _ => hin, hS.s1⟩,
   List.forall_mem_cons.mpr ⟨hx, hS.s2⟩, hS.s3, hS.s4, List.forall_mem_cons.mpr ⟨he, hS.s5⟩,
   List.pairwise_cons.mpr ⟨fun s0 hs0 _ hl0 => hne s0 hs0 hl0, hS.s6⟩, hS.s8⟩

theorem inv_getSome {w : World} (hinv : Inv w) (b : Nat) :
    Inv { w with banks := upd w.banks b { w.banks b with pooled := false } } :=
  ⟨hinv.t.congr (upd_proj BankSt.arenas rfl) (upd_proj BankSt.epoch rfl) rfl rfl rfl,
   hinv.s.congr (upd_proj BankSt.sdata rfl) (upd_proj BankSt.epoch rfl) rfl rfl rfl⟩

theorem inv_store {w : World} (hinv : Inv w) (m : Nat → Nat → Nat) : Inv { w with mem := m } :=
  ⟨hinv.t.congr (fun _ => rfl) (fun _ => rfl) rfl rfl rfl, hinv.s.congr (fun _ => rfl) (fun _ => rfl) rfl rfl rfl⟩

/-- the new bank has no arenas, no `sData`, and no handle names it yet -/
theorem inv_getNone {w : World} (hinv : Inv w) :
    Inv { w with banks := upd w.banks w.nbanks BankSt.fresh, nbanks := w.nbanks + 1 } :=
  ⟨hinv.t.setBank rfl (Nat.le_succ _) (Nat.le_refl _) rfl (fun h => absurd h (Nat.lt_irrefl _)) .nil
     (fun _ ha => nomatch ha) (fun _ ha => nomatch ha),
   hinv.s.setBank rfl (Nat.le_succ _) (Nat.le_refl _) rfl (fun h => absurd h (Nat.lt_irrefl _))
     ⟨Nat.le_refl _, fun _ => rfl⟩ (fun _ hx => nomatch hx)⟩

/-- the bank record `Close` leaves behind -/
def closedBank (bk : BankSt) : BankSt :=
  { arenas := bk.arenas.map (fun a => { a with len := 0 })
    sdata := { bk.sdata with len := 0 }
    epoch := bk.epoch + 1
    pooled := true }

/-- every arena keeps its array with `len = 0`, and the epoch moves on: no pointer or string of `b` is live any more -/
theorem inv_close {w : World} (hinv : Inv w) (b : Nat) :
    Inv { w with banks := upd w.banks b (closedBank (w.banks b)) } := by
  have hT := hinv.t
  have hS := hinv.s
  constructor
  · refine hT.setBank rfl (Nat.le_refl _) (Nat.le_refl _) rfl (fun _ => Nat.le_succ _) ?_ ?_ ?_
    · exact List.pairwise_map.mpr (hT.t7 b)
    · intro a ha
      obtain ⟨a0, ha0, rfl⟩ := List.mem_map.mp ha
      exact ⟨Nat.zero_le _, (hT.t8 b a0 ha0).2⟩
    · intro a ha x hx
      obtain ⟨a0, ha0, rfl⟩ := List.mem_map.mp ha
      refine ⟨hT.t4 b a0 ha0 x hx, fun b' a' hb' ha' hx' => hb' (hT.t3 b' b a' a0 x ha' ha0 hx' hx).1, ?_, ?_⟩
      · intro a' ha' hx'
        obtain ⟨a1, ha1, rfl⟩ := List.mem_map.mp ha'
        exact (hT.t3 b b a0 a1 x ha0 ha1 hx hx').2
      · -- a pointer into an array of `b` is of bank `b`, and the epoch of `b` has moved
        intro h hh hl hl' hhx
        have hb := (hT.t1 h hh hl b a0 ha0 (hhx ▸ hx)).1
        unfold World.Live at hl hl'
        rw [hb] at hl hl'
        exact absurd ((congrArg BankSt.epoch (upd_same ..)).symm.trans (hl'.trans hl.symm)) (Nat.succ_ne_self _)
  · refine hS.setBank rfl (Nat.le_refl _) (Nat.le_refl _) rfl (fun _ => Nat.le_succ _)
      ⟨Nat.zero_le _, (hS.s8 b).2⟩ fun x hx => ⟨hS.s4 b x hx, fun b' hb' hx' => hb' (hS.s3 b' b x hx' hx), ?_⟩
    intro s hs hl hl' hsx
    have hb := (hS.s1 s hs hl x hsx b hx).1
    unfold World.SLive at hl hl'
    rw [hb] at hl hl'
    exact absurd ((congrArg BankSt.epoch (upd_same ..)).symm.trans (hl'.trans hl.symm)) (Nat.succ_ne_self _)

/-- What `Alloc` on bank `b`, type `τ` finds after its growth step: the arena has a current array `x` with
a spare cell `i`; no live pointer occupies that cell or anything above it; `x` belongs to no other arena. -/
structure AllocFacts (w : World) (b τ nc x i : Nat) : Prop where
  arr : ((findArena τ (w.banks b).arenas).grow w.nextArr nc).arr = some x
  idx : ((findArena τ (w.banks b).arenas).grow w.nextArr nc).len = i
  spare : i < ((findArena τ (w.banks b).arenas).grow w.nextArr nc).cap
  below : ∀ h ∈ w.issued, w.Live h → h.arr = x → h.bank = b ∧ h.idx < i
  owner : ∀ b' a', a' ∈ (w.banks b').arenas → a'.arr = some x → b' = b ∧ a'.typ = τ
  allocated : x < (if (findArena τ (w.banks b).arenas).len = (findArena τ (w.banks b).arenas).cap then w.nextArr + 1 else w.nextArr)

/-- the cell `Alloc` is about to hand out is nobody's -/
theorem AllocFacts.cellNe {w : World} {b τ nc x i : Nat} (hf : AllocFacts w b τ nc x i) :
    ∀ h ∈ w.issued, w.Live h → ¬ (h.arr = x ∧ h.idx = i) := by
  intro h hh hl hc; have := (hf.below h hh hl hc.1).2; omega

theorem alloc_facts {w : World} (hT : TInv w) (b τ nc : Nat)
    (hnc : (findArena τ (w.banks b).arenas).len = (findArena τ (w.banks b).arenas).cap → (findArena τ (w.banks b).arenas).cap < nc) :
    ∃ x i, AllocFacts w b τ nc x i := by
  have hfa := findArena_mem τ (w.banks b).arenas
  have htyp := findArena_typ τ (w.banks b).arenas
  generalize ha0 : findArena τ (w.banks b).arenas = a0 at hfa htyp hnc
  by_cases hfull : a0.len = a0.cap
  · obtain ⟨h1, h2, h3⟩ := grow_full w.nextArr hfull (hnc hfull)
    refine ⟨w.nextArr, a0.len, ?_, ?_, ?_, ?_, ?_, ?_⟩ <;> try rw [ha0]
    · exact h1
    · exact h2
    · exact h3
    · intro h hh _ hx; have := hT.t2 h hh; omega
    · intro b' a' ha' hx; have := hT.t4 b' a' ha' _ hx; omega
    · simp [hfull]
  · have hmem : a0 ∈ (w.banks b).arenas := by
      rcases hfa with h | h
      · exact h
      · exfalso; apply hfull; rw [h]; rfl
    have h8 := hT.t8 b a0 hmem
    have hsome : ∃ x, a0.arr = some x := by
      cases hx : a0.arr with
      | some x => exact ⟨x, rfl⟩
      | none => have := h8.2 hx; omega
    obtain ⟨x, hx⟩ := hsome
    refine ⟨x, a0.len, ?_, ?_, ?_, ?_, ?_, ?_⟩ <;> try rw [ha0]
    · rw [grow_spare hfull]; exact hx
    · rw [grow_spare hfull]
    · rw [grow_spare hfull]; omega
    · intro h hh hl hhx
      exact hT.t1 h hh hl b a0 hmem (by rw [hx, hhx])
    · intro b' a' ha' hx'
      have := hT.t3 b' b a' a0 x ha' hmem hx' hx
      exact ⟨this.1, this.2.trans htyp⟩
    · simp only [hfull, if_false]; exact hT.t4 b a0 hmem x hx

/-- the world after an `Alloc` that hands out cell `i` of array `x` -/
def allocWorld (w : World) (b τ nc x i : Nat) : World :=
  { w with
    banks := upd w.banks b { w.banks b with arenas := updArena τ (fun a => a.take w.nextArr nc) (w.banks b).arenas }
    nextArr := if (findArena τ (w.banks b).arenas).len = (findArena τ (w.banks b).arenas).cap then w.nextArr + 1 else w.nextArr
    mem := upd2 w.mem x i 0
    issued := ⟨b, (w.banks b).epoch, x, i⟩ :: w.issued }

theorem inv_alloc {w : World} (hinv : Inv w) (b τ nc x i : Nat) (hb : b < w.nbanks) (hf : AllocFacts w b τ nc x i) :
    Inv (allocWorld w b τ nc x i) := by
  unfold allocWorld
  have hT := hinv.t
  have hcell := hf.cellNe
  obtain ⟨harr, hidx, hspare, hbelow, howner, hfresh⟩ := hf
  generalize hnx : (if (findArena τ (w.banks b).arenas).len = (findArena τ (w.banks b).arenas).cap then w.nextArr + 1 else w.nextArr) = nx at hfresh
  have hnx' : w.nextArr ≤ nx := by rw [← hnx]; split <;> omega
  -- the arenas of `b` afterwards: the one that was changed (`a2`), and the others
  let a2 : Arena := (findArena τ (w.banks b).arenas).take w.nextArr nc
  have ha2arr : a2.arr = some x := harr
  have ha2len : a2.len = i + 1 := by simp only [a2, Arena.take, hidx]
  generalize hbk : ({ w.banks b with arenas := updArena τ (fun a => a.take w.nextArr nc) (w.banks b).arenas } : BankSt) = bk'
  have hbe : bk'.epoch = (w.banks b).epoch := by rw [← hbk]
  have hmem : ∀ a ∈ bk'.arenas, a = a2 ∨ (a ∈ (w.banks b).arenas ∧ a.typ ≠ τ) := by
    rw [← hbk]; exact fun a ha => mem_updArena (hT.t7 b) ha
  have hold : ∀ a ∈ (w.banks b).arenas, a.typ ≠ τ → a.arr ≠ some x := fun a ha hty hx => hty (howner b a ha hx).2
  have h1 : TInv { w with banks := upd w.banks b bk', nextArr := nx, mem := upd2 w.mem x i 0 } := by
    refine hT.setBank rfl (Nat.le_refl _) hnx' rfl (fun _ => Nat.le_of_eq hbe.symm) ?_ ?_ ?_
    · rw [← hbk]; exact updArena_distinct (fun a => take_typ a _ _) (hT.t7 b)
    · intro a ha
      rcases hmem a ha with rfl | ⟨ha0, _⟩
      · rw [ha2len, ha2arr]; exact ⟨hspare, fun h => nomatch h⟩
      · exact hT.t8 b a ha0
    · intro a ha y hy
      rcases hmem a ha with rfl | ⟨ha0, hty⟩
      · obtain rfl : x = y := Option.some.inj (ha2arr.symm.trans hy)
        refine ⟨hfresh, fun b' a' hb' ha' hx' => hb' (howner b' a' ha' hx').1, fun a' ha' hx' => ?_,
          fun h hh hl _ hhx => ⟨(hbelow h hh hl hhx).1, by rw [ha2len]; have := (hbelow h hh hl hhx).2; omega⟩⟩
        rcases hmem a' ha' with rfl | ⟨ha0', hty'⟩
        · rfl
        · exact absurd hx' (hold a' ha0' hty')
      · refine ⟨Nat.lt_of_lt_of_le (hT.t4 b a ha0 y hy) hnx',
          fun b' a' hb' ha' hx' => hb' (hT.t3 b' b a' a y ha' ha0 hx' hy).1, fun a' ha' hx' => ?_,
          fun h hh hl _ hhx => hT.t1 h hh hl b a ha0 (hhx ▸ hy)⟩
        rcases hmem a' ha' with rfl | ⟨ha0', _⟩
        · obtain rfl : x = y := Option.some.inj (ha2arr.symm.trans hx')
          exact absurd hy (hold a ha0 hty)
        · exact (hT.t3 b b a a' y ha0 ha0' hy hx').2
  refine ⟨h1.issue ⟨b, (w.banks b).epoch, x, i⟩ hb hfresh ?_ ?_ ?_,
    hinv.s.congr (upd_proj BankSt.sdata (by rw [← hbk])) (upd_proj BankSt.epoch hbe) rfl rfl rfl⟩
  · show (w.banks b).epoch ≤ (upd w.banks b bk' b).epoch
    rw [upd_same, hbe]; exact Nat.le_refl _
  · -- the arenas whose array is `x`: only `a2`
    intro b' a ha hx
    dsimp only at ha hx
    by_cases hb' : b' = b
    · subst hb'
      rw [upd_same] at ha
      rcases hmem a ha with rfl | ⟨ha0, hty⟩
      · exact ⟨rfl, by rw [ha2len]; exact Nat.lt_succ_self _⟩
      · exact absurd hx (hold a ha0 hty)
    · rw [upd_other hb'] at ha
      exact absurd (howner b' a ha hx).1 hb'
  · intro h0 hh0 hl0 hc
    exact hcell h0 hh0 ((upd_proj BankSt.epoch hbe h0.bank).symm.trans hl0) ⟨hc.1.symm, hc.2.symm⟩

/-- the world after a `ToString` that leaves `sData` of bank `b` as `sd'` and hands out `[len, len+n)` of `xo` -/
def tsWorld (w : World) (b n : Nat) (xo : Option Nat) (nx : Nat) (sd' : SData) (m : Nat → Nat → Nat) : World :=
  { w with
    banks := upd w.banks b { w.banks b with sdata := sd' }
    nextSArr := nx
    smem := m
    sissued := ⟨b, (w.banks b).epoch, xo, (w.banks b).sdata.len, n⟩ :: w.sissued }

/-- What `ToString` on bank `b` does, whichever way `append` goes: afterwards `sData` is `sd'` with array `xo`
(`none` only for an empty string from a nil `sData`), longer by the bytes; no live string reaches `len` of that
array, which belongs to no other bank; memory `m` differs from before only above `len` of it or in a fresh array. -/
structure TSFacts (w : World) (b : Nat) (bytes : List Nat) (g : Nat) (xo : Option Nat) (nx : Nat) (sd' : SData)
    (m : Nat → Nat → Nat) : Prop where
  arr : sd'.arr = xo
  len : sd'.len = (w.banks b).sdata.len + bytes.length
  /-- `g` is what `append` reallocates to: large enough when the operation is `Allowed` -/
  cap : (w.banks b).sdata.len + bytes.length ≤ g → sd'.len ≤ sd'.cap ∧ (sd'.arr = none → sd'.cap = 0)
  next : w.nextSArr ≤ nx
  allocated : ∀ x, xo = some x → x < nx
  owner : ∀ x, xo = some x → ∀ b', (w.banks b').sdata.arr = some x → b' = b
  below : ∀ x, xo = some x → ∀ s ∈ w.sissued, w.SLive s → s.arr = some x →
    s.bank = b ∧ s.start + s.len ≤ (w.banks b).sdata.len
  frame : ∀ s ∈ w.sissued, w.SLive s → ∀ y, s.arr = some y → ∀ i, i < s.len → m y (s.start + i) = w.smem y (s.start + i)
  empty : xo = none → bytes = []
  written : ∀ x, xo = some x → ((List.range bytes.length).map fun i => m x ((w.banks b).sdata.len + i)) = bytes

/-- the range `ToString` is about to hand out overlaps no live string -/
theorem TSFacts.rangeDisj {w : World} {b g nx : Nat} {bytes : List Nat} {xo : Option Nat} {sd' : SData}
    {m : Nat → Nat → Nat} (hf : TSFacts w b bytes g xo nx sd' m) (e : Nat) :
    ∀ s0 ∈ w.sissued, w.SLive s0 → RangeDisj ⟨b, e, xo, (w.banks b).sdata.len, bytes.length⟩ s0 :=
  fun s0 hs0 hl0 x hx hx0 => .inr (hf.below x hx s0 hs0 hl0 hx0).2

theorem inv_toString {w : World} (hinv : Inv w) {b g nx : Nat} {bytes : List Nat} {xo : Option Nat} {sd' : SData}
    {m : Nat → Nat → Nat} (hb : b < w.nbanks) (hg : (w.banks b).sdata.len + bytes.length ≤ g)
    (hf : TSFacts w b bytes g xo nx sd' m) :
    Inv (tsWorld w b bytes.length xo nx sd' m) := by
  unfold tsWorld
  refine ⟨hinv.t.congr (upd_proj BankSt.arenas rfl) (upd_proj BankSt.epoch rfl) rfl rfl rfl, ?_⟩
  have h1 : SInv { w with banks := upd w.banks b { w.banks b with sdata := sd' }, nextSArr := nx, smem := m } := by
    refine hinv.s.setBank rfl (Nat.le_refl _) hf.next rfl (fun _ => Nat.le_refl _) (hf.cap hg) fun y hy => ?_
    have hy : xo = some y := hf.arr.symm.trans hy
    exact ⟨hf.allocated y hy, fun b' hb' h => hb' (hf.owner y hy b' h), fun s hs hl _ hsx =>
      ⟨(hf.below y hy s hs hl hsx).1, by rw [hf.len]; have := (hf.below y hy s hs hl hsx).2; omega⟩⟩
  refine h1.issue ⟨b, (w.banks b).epoch, xo, (w.banks b).sdata.len, bytes.length⟩ hb ?_ hf.allocated ?_ ?_
  · show (w.banks b).epoch ≤ (upd w.banks b _ b).epoch
    rw [upd_same]; exact Nat.le_refl _
  · intro y hy b' hby
    dsimp only at hby ⊢
    by_cases hb' : b' = b
    · subst hb'; rw [upd_same]; exact ⟨rfl, by rw [hf.len]; exact Nat.le_refl _⟩
    · rw [upd_other hb'] at hby; exact absurd (hf.owner y hy b' hby) hb'
  · intro s0 hs0 hl0
    exact hf.rangeDisj _ s0 hs0
      ((upd_proj (f := w.banks) (b := b) (v := { w.banks b with sdata := sd' }) BankSt.epoch rfl s0.bank).symm.trans hl0)

end Avro.BankL
