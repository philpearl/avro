import AvroModel.Lemmas.Outcome
/-!
The induction on the step budget through the ten mutually recursive `read` / `skip` functions, done once for
an arbitrary property: a `Φ` that satisfies the closure conditions `StepLaw` holds of every one of them at
every pair of step budgets `n ≤ n + k` (`StepLaw.readAt`, `StepLaw.skipAt`). Monotonicity in the budget, no
panic, `skip` never stuck (`Lemmas/ReadLaws.lean`) and "the unread input never grows"
(`Lemmas/Terminates.lean`) are instances.

In `Φ p bs o o'`, `bs` is the unread input the call starts on, `o` its outcome at the smaller and `o'` at the
larger budget, and `p` projects a result to the input it leaves unread. `PrimLaw` is the part that does not
speak of the budget: it already gives `Φ` of the primitives built from `next` and `rdVarint`, also for a `Φ`
such as "is not `.fuel`" that the budget-0 clause `fuel` excludes. `Φ p bs .stuck .stuck` is not a field but a
hypothesis of `readAt` alone: the `skip` functions never produce `.stuck`, and that is itself an instance
(`neverStuck_law`).
-/
namespace Avro

theorem skipN_eq_bind (l : Int) (bs : Bytes) : skipN l bs = (next l bs).bind fun p => .ok p.2 := by
  unfold skipN; cases next l bs <;> rfl

theorem skipVar_eq_bind (bs : Bytes) : skipVar bs = (rdVarint bs).bind fun p => .ok p.2 := by
  unfold skipVar rdVarint; cases readVarint bs <;> rfl

theorem skipLen_eq_bind (bs : Bytes) : skipLen bs = (rdVarint bs).bind fun p => skipN p.1 p.2 := by
  unfold skipLen rdVarint; cases readVarint bs <;> rfl

theorem getElem?_inRange {α} (cs : List α) (idx : Int) (h : ¬ (idx < 0 ∨ idx ≥ cs.length)) :
    ∃ c, cs[idx.toNat]? = some c :=
  ⟨cs[idx.toNat]'(by omega), List.getElem?_eq_getElem _⟩

/-- codecs whose `read` and `skip` call no other codec: their outcome does not depend on the step budget -/
def Codec.isPrim : Codec → Bool
  | .null | .bool _ | .int _ _ | .float _ | .double _ | .f32double _ | .bytes _ | .string _ | .fixed _
  | .timeString | .timeLong _ | .date | .custom _ => true
  | _ => false

theorem read_prim (env : Env) {c : Codec} (h : c.isPrim = true) (n : Nat) (bs : Bytes) (dst : GoVal) :
    read env (n + 1) c bs dst = read env 1 c bs dst := by
  cases c <;> first | rfl | cases h

theorem skip_prim (env : Env) {c : Codec} (h : c.isPrim = true) (n : Nat) (bs : Bytes) :
    skip env (n + 1) c bs = skip env 1 c bs := by
  cases c <;> first | rfl | cases h

structure PrimLaw (env : Env)
    (Φ : {α : Type} → (α → Bytes) → Bytes → Outcome α → Outcome α → Prop) : Prop where
  ok : ∀ {α} (p : α → Bytes) a, Φ p (p a) (.ok a) (.ok a)
  err : ∀ {α} (p : α → Bytes) bs, Φ p bs .err .err
  bind : ∀ {α β} {p : α → Bytes} {q : β → Bytes} {bs o o'} {f f' : α → Outcome β},
    Φ p bs o o' → (∀ a, o = .ok a → Φ q (p a) (f a) (f' a)) → Φ q bs (o.bind f) (o'.bind f')
  rdVarint : ∀ bs, Φ Prod.snd bs (rdVarint bs) (rdVarint bs)
  rdInt : ∀ w bs, Φ Prod.snd bs (rdInt w bs) (rdInt w bs)
  rdByte : ∀ bs, Φ Prod.snd bs (rdByte bs) (rdByte bs)
  next : ∀ l bs, Φ Prod.snd bs (next l bs) (next l bs)
  customRead : ∀ cid bs v r, (env.custom cid).read bs = some (v, r) → Φ Prod.snd bs (.ok (v, r)) (.ok (v, r))
  customSkip : ∀ cid bs r, (env.custom cid).skip bs = some r → Φ id bs (.ok r) (.ok r)

structure StepLaw (env : Env)
    (Φ : {α : Type} → (α → Bytes) → Bytes → Outcome α → Outcome α → Prop) : Prop extends PrimLaw env Φ where
  fuel : ∀ {α} (p : α → Bytes) bs o', Φ p bs .fuel o'

namespace PrimLaw
variable {env : Env} {Φ : {α : Type} → (α → Bytes) → Bytes → Outcome α → Outcome α → Prop} (L : PrimLaw env Φ)
include L

theorem ret {α} (x : α) (r : Bytes) : Φ Prod.snd r (.ok (x, r)) (.ok (x, r)) := L.ok Prod.snd (x, r)

theorem skipN (l : Int) (bs : Bytes) : Φ id bs (skipN l bs) (skipN l bs) := by
  rw [skipN_eq_bind]; exact L.bind (L.next l bs) fun a _ => L.ok id a.2

theorem skipVar (bs : Bytes) : Φ id bs (skipVar bs) (skipVar bs) := by
  rw [skipVar_eq_bind]; exact L.bind (L.rdVarint bs) fun a _ => L.ok id a.2

theorem skipLen (bs : Bytes) : Φ id bs (skipLen bs) (skipLen bs) := by
  rw [skipLen_eq_bind]; exact L.bind (L.rdVarint bs) fun a _ => L.skipN a.1 a.2

theorem blockCount (c : Int) (bs : Bytes) : Φ Prod.snd bs (blockCount c bs) (blockCount c bs) := by
  unfold Avro.blockCount; split
  · exact L.bind (L.rdVarint bs) fun a _ => L.ok Prod.snd (_, a.2)
  · exact L.ok Prod.snd (_, bs)

theorem arrayBlockCount (c : Int) (bs : Bytes) (len : Nat) :
    Φ Prod.snd bs (arrayBlockCount c bs len) (arrayBlockCount c bs len) := by
  unfold Avro.arrayBlockCount
  refine L.bind (p := Prod.snd) ?_ fun a _ => ?_
  · split
    · exact L.bind (L.rdVarint bs) fun a _ => L.ok Prod.snd (wrap64 (-c), a.2)
    · exact L.ok Prod.snd (c, bs)
  · split
    · exact L.err _ _
    · exact L.ok Prod.snd (a.1.toNat, a.2)

theorem skipPrim {c : Codec} (h : c.isPrim = true) (bs : Bytes) : Φ id bs (skip env 1 c bs) (skip env 1 c bs) := by
  cases c <;> (try (cases h; done)) <;> simp only [Avro.skip]
  case null => exact L.ok id bs
  case bool | float | double | f32double | fixed => exact L.skipN _ bs
  case int | timeLong | date => exact L.skipVar bs
  case bytes | string | timeString => exact L.skipLen bs
  case custom cid =>
    split
    · rename_i r h; exact L.customSkip cid bs r h
    · exact L.err _ _

theorem readPrim {c : Codec} (h : c.isPrim = true) (bs : Bytes) (dst : GoVal) :
    Φ Prod.snd bs (read env 1 c bs dst) (read env 1 c bs dst) := by
  cases c <;> (try (cases h; done)) <;> simp only [Avro.read, Outcome.bind_eq, Outcome.pure_eq]
  case null => exact L.ret dst bs
  case bool => exact L.bind (L.rdByte bs) fun a _ => L.ret _ a.2
  case int | timeLong | date => exact L.bind (L.rdInt _ bs) fun a _ => L.ret _ a.2
  case float | double | f32double | fixed => exact L.bind (L.next _ bs) fun a _ => L.ret _ a.2
  case bytes =>
    refine L.bind (L.rdVarint bs) fun a _ => ?_
    split
    · exact L.ret dst a.2
    · exact L.bind (L.next _ a.2) fun b _ => L.ret _ b.2
  case string =>
    refine L.bind (L.rdVarint bs) fun a _ => ?_
    split
    · exact L.err _ _
    · exact L.bind (L.next _ a.2) fun b _ => L.ret _ b.2
  case timeString =>
    refine L.bind (L.rdVarint bs) fun a _ => ?_
    split
    · exact L.ret dst a.2
    · refine L.bind (L.next _ a.2) fun b _ => ?_
      split
      · exact L.ret _ b.2
      · exact L.err _ _
  case custom cid =>
    split
    · rename_i v r h; exact L.customRead cid bs v r h
    · exact L.err _ _

end PrimLaw

namespace StepLaw
variable {env : Env} {Φ : {α : Type} → (α → Bytes) → Bytes → Outcome α → Outcome α → Prop} (L : StepLaw env Φ)
include L

structure SkipAt (L : StepLaw env Φ) (n m : Nat) : Prop where
  skip : ∀ c bs, Φ id bs (skip env n c bs) (skip env m c bs)
  skipFields : ∀ cs bs, Φ id bs (skipFields env n cs bs) (skipFields env m cs bs)
  skipBlocks : ∀ keyed item bs, Φ id bs (skipBlocks env n keyed item bs) (skipBlocks env m keyed item bs)
  skipItems : ∀ keyed item k bs, Φ id bs (skipItems env n keyed item k bs) (skipItems env m keyed item k bs)

theorem skipAt_succ {n m : Nat} (ih : L.SkipAt n m) : L.SkipAt (n + 1) (m + 1) where
  skip c bs := by
    by_cases hp : c.isPrim = true
    · rw [skip_prim env hp n, skip_prim env hp m]; exact L.skipPrim hp bs
    cases c <;> (try exact absurd rfl hp) <;> simp only [Avro.skip, Outcome.bind_eq, Outcome.pure_eq]
    case array => exact ih.skipBlocks _ _ bs
    case map => exact ih.skipBlocks _ _ bs
    case pointer => exact ih.skip _ bs
    case record => exact ih.skipFields _ bs
    case union cs =>
      refine L.bind (L.rdVarint bs) fun a _ => ?_
      split
      · exact L.err _ _
      · rename_i h
        obtain ⟨c', hc'⟩ := getElem?_inRange cs a.1 h
        rw [hc']; exact ih.skip c' a.2
    case unionOne c' nn =>
      refine L.bind (L.rdByte bs) fun a _ => ?_
      split
      · exact L.err _ _
      · split
        · exact ih.skip c' a.2
        · exact L.ok id a.2
    case unionNullString =>
      refine L.bind (L.rdByte bs) fun a _ => ?_
      split
      · exact L.err _ _
      · split
        · exact L.skipLen a.2
        · exact L.ok id a.2
    case nullw k =>
      cases k
      · exact L.skipVar bs
      · exact L.skipN _ bs
      · exact L.skipN _ bs
      · exact L.skipN _ bs
      · exact L.skipLen bs
      · exact L.skipLen bs
  skipFields cs bs := by
    cases cs with
    | nil => exact L.ok id bs
    | cons c cs =>
      simp only [Avro.skipFields, Outcome.bind_eq]
      exact L.bind (ih.skip c bs) fun r _ => ih.skipFields cs r
  skipBlocks keyed item bs := by
    simp only [Avro.skipBlocks, Outcome.bind_eq, Outcome.pure_eq]
    refine L.bind (L.rdVarint bs) fun a _ => ?_
    split
    · exact L.ok id a.2
    · split
      · exact L.bind (L.rdVarint a.2) fun b _ => L.bind (L.skipN b.1 b.2) fun r _ => ih.skipBlocks keyed item r
      · exact L.bind (ih.skipItems keyed item _ a.2) fun r _ => ih.skipBlocks keyed item r
  skipItems keyed item k bs := by
    cases k with
    | zero => exact L.ok id bs
    | succ k =>
      have rest (r : Bytes) := L.bind (ih.skip item r) fun r' _ => ih.skipItems keyed item k r'
      cases keyed <;> simp only [Avro.skipItems, Outcome.bind_eq, Outcome.pure_eq, if_true, Bool.false_eq_true, if_false]
      · exact rest bs
      · exact L.bind (L.skipLen bs) fun r _ => rest r

theorem skipAt : ∀ n k, L.SkipAt n (n + k)
  | 0, _ => ⟨fun _ _ => L.fuel _ _ _, fun _ _ => L.fuel _ _ _, fun _ _ _ => L.fuel _ _ _, fun _ _ _ _ => L.fuel _ _ _⟩
  | n + 1, k => Nat.add_right_comm n 1 k ▸ L.skipAt_succ (skipAt n k)

structure ReadAt (L : StepLaw env Φ) (n m : Nat) : Prop where
  read : ∀ c bs dst, Φ Prod.snd bs (read env n c bs dst) (read env m c bs dst)
  readFields : ∀ cs ts bs fs, Φ Prod.snd bs (readFields env n cs ts bs fs) (readFields env m cs ts bs fs)
  readArrayBlocks : ∀ item bs acc,
    Φ Prod.snd bs (readArrayBlocks env n item bs acc) (readArrayBlocks env m item bs acc)
  readItems : ∀ item k bs acc, Φ Prod.snd bs (readItems env n item k bs acc) (readItems env m item k bs acc)
  readMapBlocks : ∀ val bs ks vs,
    Φ Prod.snd bs (readMapBlocks env n val bs ks vs) (readMapBlocks env m val bs ks vs)
  readMapItems : ∀ val k bs ks vs,
    Φ Prod.snd bs (readMapItems env n val k bs ks vs) (readMapItems env m val k bs ks vs)

variable (stuck : ∀ {α} (p : α → Bytes) bs, Φ p bs .stuck .stuck)
include stuck

theorem readAt_succ {n m : Nat} (sk : L.SkipAt n m) (ih : L.ReadAt n m) : L.ReadAt (n + 1) (m + 1) where
  read c bs dst := by
    by_cases hp : c.isPrim = true
    · rw [read_prim env hp n, read_prim env hp m]; exact L.readPrim hp bs dst
    cases c <;> (try exact absurd rfl hp) <;> simp only [Avro.read, Outcome.bind_eq, Outcome.pure_eq]
    case array item _ =>
      cases dst
      case slice items => exact L.bind (ih.readArrayBlocks item bs items) fun a _ => L.ret _ a.2
      all_goals exact stuck _ _
    case map val _ =>
      cases dst
      case map _ ks vs => exact L.bind (ih.readMapBlocks val bs ks vs) fun a _ => L.ret _ a.2
      all_goals exact stuck _ _
    case pointer c' =>
      cases dst
      case ptr t => cases t <;> exact L.bind (ih.read c' bs _) fun a _ => L.ret _ a.2
      all_goals exact stuck _ _
    case record _ cs ts =>
      cases dst
      case struct fs => exact L.bind (ih.readFields cs ts bs fs) fun a _ => L.ret _ a.2
      all_goals exact stuck _ _
    case union cs =>
      refine L.bind (L.rdVarint bs) fun a _ => ?_
      split
      · exact L.err _ _
      · rename_i h
        obtain ⟨c', hc'⟩ := getElem?_inRange cs a.1 h
        rw [hc']; exact ih.read c' a.2 dst
    case unionOne c' nn =>
      refine L.bind (L.rdByte bs) fun a _ => ?_
      split
      · exact L.err _ _
      · split
        · exact ih.read c' a.2 dst
        · exact L.ret dst a.2
    case unionNullString =>
      refine L.bind (L.rdByte bs) fun a _ => ?_
      split
      · exact L.err _ _
      · split
        · exact ih.read _ a.2 dst
        · exact L.ret dst a.2
    case nullw k => exact L.bind (ih.read (nullInner k) bs _) fun a _ => L.ret _ a.2
  readFields cs ts bs fs := by
    rcases cs with _ | ⟨c, cs⟩
    · exact L.ok Prod.snd (fs, bs)
    rcases ts with _ | ⟨_ | i, ts⟩ <;> simp only [Avro.readFields, Outcome.bind_eq]
    · exact stuck _ _
    · exact L.bind (sk.skip c bs) fun r _ => ih.readFields cs ts r fs
    · split
      · exact stuck _ _
      · exact L.bind (ih.read c bs _) fun a _ => ih.readFields cs ts a.2 _
  readArrayBlocks item bs acc := by
    simp only [Avro.readArrayBlocks, Outcome.bind_eq, Outcome.pure_eq]
    refine L.bind (L.rdVarint bs) fun a _ => ?_
    split
    · exact L.ok Prod.snd (acc, a.2)
    · exact L.bind (L.arrayBlockCount a.1 a.2 acc.length) fun b _ =>
        L.bind (ih.readItems item b.1 b.2 acc) fun x _ => ih.readArrayBlocks item x.2 x.1
  readItems item k bs acc := by
    cases k with
    | zero => exact L.ok Prod.snd (acc, bs)
    | succ k =>
      simp only [Avro.readItems, Outcome.bind_eq]
      exact L.bind (ih.read item bs _) fun a _ => ih.readItems item k a.2 _
  readMapBlocks val bs ks vs := by
    simp only [Avro.readMapBlocks, Outcome.bind_eq, Outcome.pure_eq]
    refine L.bind (L.rdVarint bs) fun a _ => ?_
    split
    · exact L.ok Prod.snd ((ks, vs), a.2)
    · exact L.bind (L.blockCount a.1 a.2) fun b _ =>
        L.bind (ih.readMapItems val b.1 b.2 ks vs) fun x _ => ih.readMapBlocks val x.2 x.1.1 x.1.2
  readMapItems val k bs ks vs := by
    cases k with
    | zero => exact L.ok Prod.snd ((ks, vs), bs)
    | succ k =>
      simp only [Avro.readMapItems, Outcome.bind_eq]
      refine L.bind (L.rdVarint bs) fun a _ => ?_
      split
      · exact L.err _ _
      · exact L.bind (L.next a.1 a.2) fun b _ =>
          L.bind (ih.read val b.2 _) fun x _ => ih.readMapItems val k x.2 _ _

theorem readAt : ∀ n k, L.ReadAt n (n + k)
  | 0, _ => ⟨fun _ _ _ => L.fuel _ _ _, fun _ _ _ _ => L.fuel _ _ _, fun _ _ _ => L.fuel _ _ _,
      fun _ _ _ _ => L.fuel _ _ _, fun _ _ _ _ => L.fuel _ _ _, fun _ _ _ _ _ => L.fuel _ _ _⟩
  | n + 1, k => Nat.add_right_comm n 1 k ▸ L.readAt_succ stuck (L.skipAt n k) (readAt n k)

end StepLaw
end Avro
