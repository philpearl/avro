import AvroModel.Lemmas.SchemaGen
import AvroModel.Lemmas.BuildKind
/-!
The steps of `buildCodec`, each stated once: the registry and pointer steps, one statement per schema former
that schema generation produces, the field loop one field at a time. The iffs hold for every fuel (read from
left to right they take a built codec apart, from right to left they show that one exists); the equations are
at explicit fuel.
-/
namespace Avro

theorem buildCodec_reg (reg : Reg) (n : Nat) (s : Schema) (t : GoType) (oe : Bool) (b : Schema → Except String Codec)
    (h1 : s.type ≠ "union") (h2 : s.type ≠ "null") (hr : regLookup reg t = some b) :
    buildCodec reg (n + 1) s (some t) oe = b s := by
  have hc : (s.type != "union" && s.type != "null") = true := by simp [h1, h2]
  simp only [buildCodec, hc, if_true]
  cases t <;> first | cases hr | simp_all

theorem buildCodec_reg_inv {reg : Reg} {R : GoType} {b : Schema → Except String Codec} (hR : regLookup reg R = some b)
    {X : Schema} (h1 : X.type ≠ "union") (h2 : X.type ≠ "null") {fuel : Nat} {oe : Bool} {cd : Codec}
    (h : buildCodec reg fuel X (some R) oe = .ok cd) : b X = .ok cd := by
  cases fuel with
  | zero => simp [buildCodec] at h
  | succ n => rwa [buildCodec_reg reg n X R oe b h1 h2 hR] at h

theorem buildCodec_ptr_ok {reg : Reg} {fuel : Nat} {s : Schema} {e : GoType} {oe : Bool} {cd : Codec}
    (h1 : s.type ≠ "union") (h2 : s.type ≠ "null") :
    buildCodec reg fuel s (some (.ptr e)) oe = .ok cd ↔
      ∃ n c, fuel = n + 1 ∧ buildCodec reg n s (some e) false = .ok c ∧ cd = .pointer c := by
  cases fuel with
  | zero => exact ⟨fun h => (nomatch h), fun ⟨_, _, h, _⟩ => (nomatch h)⟩
  | succ n =>
    have hc : (s.type != "union" && s.type != "null") = true := by simp [h1, h2]
    simp only [buildCodec, hc, if_true]
    constructor
    · intro h
      split at h <;> cases h
      exact ⟨n, _, rfl, ‹_›, rfl⟩
    · rintro ⟨m, c, hm, hc', rfl⟩
      cases hm
      rw [hc']

theorem build_ptr_ok {reg : Reg} {n : Nat} {s : Schema} {e : GoType} {oe : Bool} {c : Codec}
    (h1 : s.type ≠ "union") (h2 : s.type ≠ "null") (h : buildCodec reg n s (some e) false = .ok c) :
    buildCodec reg (n + 1) s (some (.ptr e)) oe = .ok (.pointer c) :=
  (buildCodec_ptr_ok h1 h2).mpr ⟨n, c, rfl, h, rfl⟩

/-- `buildUnionCodec` for `["null", s]` around the codec of `s` -/
def wrapU : Codec → Codec
  | .string o => .unionNullString o 1
  | c => .unionOne c 1

/-- a union `[null, x]`: the codec of `x` for the same Go type, wrapped. Stated for any schema with these two
fields: on the concrete `nullableSchema x` the unfolding carries the schema through every branch of `buildKind`. -/
theorem buildCodec_union_eq (reg : Reg) (n : Nat) (s x : Schema) (typ : Option GoType) (oe : Bool)
    (h1 : s.type = "union") (h2 : s.union = [.prim "null", x]) :
    buildCodec reg (n + 3) s typ oe = (buildCodec reg n x typ oe).map wrapU := by
  have hc : (s.type != "union" && s.type != "null") = false := by simp [h1]
  simp only [buildCodec, hc, Bool.false_eq_true, if_false]
  simp [buildKind, h1, h2, buildUnion, prim_type]
  cases buildCodec reg n x typ oe with
  | error e => rfl
  | ok c => cases c <;> rfl

theorem build_union_ok {reg : Reg} {n : Nat} {u : Schema} {typ : Option GoType} {oe : Bool} {cb : Codec}
    (h : buildCodec reg n u typ oe = .ok cb) :
    buildCodec reg (n + 3) (nullableSchema u) typ oe = .ok (wrapU cb) := by
  rw [buildCodec_union_eq reg n _ u typ oe rfl rfl, h]; rfl

theorem buildCodec_nullable_inv {reg : Reg} {fuel : Nat} {x : Schema} {typ : Option GoType} {oe : Bool} {cd : Codec}
    (h : buildCodec reg fuel (nullableSchema x) typ oe = .ok cd) :
    ∃ n c, buildCodec reg n x typ oe = .ok c ∧ ((∀ o, c ≠ .string o) → cd = .unionOne c 1) := by
  match fuel with
  | 0 | 1 | 2 => cases h
  | n + 3 =>
    rw [buildCodec_union_eq reg n _ x typ oe rfl rfl] at h
    cases hb : buildCodec reg n x typ oe with
    | error e => rw [hb] at h; cases h
    | ok c =>
      refine ⟨n, c, hb, fun hs => ?_⟩
      rw [hb] at h
      cases c <;> first | exact absurd rfl (hs _) | (cases h; rfl)

theorem buildCodec_kind {reg : Reg} {n : Nat} {s : Schema} {t : GoType} {oe : Bool}
    (hp : ∀ e, t ≠ .ptr e) (hr : regLookup reg t = none) :
    buildCodec reg (n + 1) s (some t) oe = buildKind reg n s (some t) oe := by
  simp only [buildCodec]
  split
  · cases t <;> first | exact absurd rfl (hp _) | simp only [hr]
  · rfl

theorem buildCodec_ok_fuel {reg : Reg} {fuel : Nat} {s : Schema} {t : GoType} {oe : Bool} {cd : Codec}
    (hp : ∀ e, t ≠ .ptr e) (hr : regLookup reg t = none) (h : buildCodec reg fuel s (some t) oe = .ok cd) :
    ∃ n, fuel = n + 2 ∧ buildKind reg (n + 1) s (some t) oe = .ok cd := by
  match fuel with
  | 0 => cases h
  | 1 => rw [buildCodec_kind hp hr] at h; cases h
  | n + 2 => exact ⟨n, rfl, buildCodec_kind hp hr ▸ h⟩

/-! The arms of `buildKind_inv` for an array, a map and a record schema against a typed target: every other
arm names another schema type (or, for records, another kind of target), which `simp_all` refutes. -/

theorem buildKind_inv_array {reg : Reg} {n : Nat} {s : Schema} {T : GoType} {oe : Bool} {c : Codec}
    (ht : s.type = "array") (h : buildKind reg (n + 1) s (some T) oe = .ok c) :
    ∃ o e ci, s.object = some o ∧ T.strip = .slice e ∧ buildCodec reg n o.items (some e) false = .ok ci ∧
      c = .array ci oe := by
  cases buildKind_inv h <;> first | exact ⟨_, _, _, ‹_›, ‹_›, ‹_›, rfl⟩ | simp_all

theorem buildKind_inv_map {reg : Reg} {n : Nat} {s : Schema} {T : GoType} {oe : Bool} {c : Codec}
    (ht : s.type = "map") (h : buildKind reg (n + 1) s (some T) oe = .ok c) :
    ∃ o key v ci, s.object = some o ∧ T.strip = .map key v ∧ key.strip = .string ∧
      buildCodec reg n o.values (some v) false = .ok ci ∧ c = .map ci oe := by
  cases buildKind_inv h <;> first | exact ⟨_, _, _, _, ‹_›, ‹_›, ‹_›, ‹_›, rfl⟩ | simp_all

theorem buildKind_inv_record {reg : Reg} {n : Nat} {s : Schema} {T : GoType} {oe : Bool} {c : Codec}
    {nm pk : String} {gfs : List GoField} (ht : s.type = "record") (hT : T.strip = .struct nm pk gfs)
    (h : buildKind reg (n + 1) s (some T) oe = .ok c) :
    ∃ o cs ts, s.object = some o ∧ buildFields reg n o.fields (some gfs) = .ok (cs, ts) ∧
      c = .record (zeroFields gfs) cs ts := by
  cases buildKind_inv h <;> simp_all

theorem buildCodec_prim_bool (reg : Reg) (n : Nat) (oe : Bool) :
    buildCodec reg (n + 2) (.prim "boolean") (some .bool) oe = .ok (.bool oe) := rfl
theorem buildCodec_prim_int (reg : Reg) (n : Nat) (oe : Bool) {w : Nat} (hw : w = 64 ∨ w = 32 ∨ w = 16) :
    buildCodec reg (n + 2) (.prim "long") (some (.int w)) oe = .ok (.int w oe) := by
  rcases hw with rfl | rfl | rfl <;> rfl
theorem buildCodec_prim_float32 (reg : Reg) (n : Nat) (oe : Bool) :
    buildCodec reg (n + 2) (.prim "double") (some .float32) oe = .ok (.f32double oe) := rfl
theorem buildCodec_prim_float64 (reg : Reg) (n : Nat) (oe : Bool) :
    buildCodec reg (n + 2) (.prim "double") (some .float64) oe = .ok (.double oe) := rfl
theorem buildCodec_prim_string (reg : Reg) (n : Nat) (oe : Bool) :
    buildCodec reg (n + 2) (.prim "string") (some .string) oe = .ok (.string oe) := rfl
theorem buildCodec_prim_bytes (reg : Reg) (n : Nat) (oe : Bool) :
    buildCodec reg (n + 2) (.prim "bytes") (some (.slice (.uint 8))) oe = .ok (.bytes oe) := rfl

/-- the array arm of `buildKind` against a slice; for any schema with these two fields, as `buildCodec_union_eq` -/
theorem buildKind_array {reg : Reg} {n : Nat} {s : Schema} {o : SchemaObject} {e : GoType} {oe : Bool}
    (ht : s.type = "array") (ho : s.object = some o) :
    buildKind reg (n + 1) s (some (.slice e)) oe = (buildCodec reg n o.items (some e) false).map (.array · oe) := by
  simp [buildKind, ht, ho, GoType.strip]
  cases buildCodec reg n o.items (some e) false <;> rfl

theorem buildCodec_array_ok {reg : Reg} {fuel : Nat} {u : Schema} {e : GoType} {oe : Bool} {cd : Codec} :
    buildCodec reg fuel (arraySchema u) (some (.slice e)) oe = .ok cd ↔
      ∃ n ci, fuel = n + 2 ∧ buildCodec reg n u (some e) false = .ok ci ∧ cd = .array ci oe := by
  constructor
  · intro h
    obtain ⟨n, rfl, hk⟩ := buildCodec_ok_fuel (fun _ => GoType.noConfusion) rfl h
    obtain ⟨o, e', ci, ho, hT, hci, rfl⟩ := buildKind_inv_array rfl hk
    cases ho; cases hT
    exact ⟨n, ci, rfl, hci, rfl⟩
  · rintro ⟨n, ci, rfl, hci, rfl⟩
    rw [buildCodec_kind (fun _ => GoType.noConfusion) rfl, buildKind_array rfl rfl]
    exact congrArg _ hci

/-- Go arrays have a schema but no codec -/
theorem buildCodec_goarray_inv {reg : Reg} {fuel : Nat} {u : Schema} {k : Nat} {e : GoType} {oe : Bool} {cd : Codec}
    (h : buildCodec reg fuel (arraySchema u) (some (.array k e)) oe = .ok cd) : False := by
  obtain ⟨n, rfl, hk⟩ := buildCodec_ok_fuel (fun _ => GoType.noConfusion) rfl h
  obtain ⟨_, _, _, _, hT, _⟩ := buildKind_inv_array rfl hk
  cases hT

/-- the map arm of `buildKind`, forwards; for any schema with these two fields, as `buildCodec_union_eq` -/
theorem buildKind_map {reg : Reg} {n : Nat} {s : Schema} {o : SchemaObject} {k v : GoType} {oe : Bool} {cv : Codec}
    (ht : s.type = "map") (ho : s.object = some o) (hkey : k.strip = .string)
    (hcv : buildCodec reg n o.values (some v) false = .ok cv) :
    buildKind reg (n + 1) s (some (.map k v)) oe = .ok (.map cv oe) := by
  have hs : (GoType.map k v).strip = .map k v := rfl
  simp [buildKind, ht, ho, hs, hkey, hcv]

theorem buildCodec_map_ok {reg : Reg} {fuel : Nat} {u : Schema} {k v : GoType} {oe : Bool} {cd : Codec} :
    buildCodec reg fuel (mapSchema u) (some (.map k v)) oe = .ok cd ↔
      ∃ n cv, fuel = n + 2 ∧ k.strip = .string ∧ buildCodec reg n u (some v) false = .ok cv ∧ cd = .map cv oe := by
  constructor
  · intro h
    obtain ⟨n, rfl, hk⟩ := buildCodec_ok_fuel (fun _ => GoType.noConfusion) rfl h
    obtain ⟨o, key, v', cv, ho, hT, hkey, hcv, rfl⟩ := buildKind_inv_map rfl hk
    cases ho; cases hT
    exact ⟨n, cv, rfl, hkey, hcv, rfl⟩
  · rintro ⟨n, cv, rfl, hkey, hcv, rfl⟩
    rw [buildCodec_kind (fun _ => GoType.noConfusion) rfl]
    exact buildKind_map rfl rfl hkey hcv

theorem build_map_ok {reg : Reg} {n : Nat} {u : Schema} {v : GoType} {oe : Bool} {ci : Codec}
    (h : buildCodec reg n u (some v) false = .ok ci) :
    buildCodec reg (n + 2) (mapSchema u) (some (.map .string v)) oe = .ok (.map ci oe) :=
  buildCodec_map_ok.mpr ⟨n, ci, rfl, rfl, h, rfl⟩

/-- the record arm of `buildKind` against a struct, likewise -/
theorem buildKind_record {reg : Reg} {n : Nat} {s : Schema} {o : SchemaObject} {nm pk : String} {gfs : List GoField}
    {oe : Bool} (ht : s.type = "record") (ho : s.object = some o) :
    buildKind reg (n + 1) s (some (.struct nm pk gfs)) oe =
      (buildFields reg n o.fields (some gfs)).map fun r => .record (zeroFields gfs) r.1 r.2 := by
  simp [buildKind, ht, ho, GoType.strip]
  cases buildFields reg n o.fields (some gfs) <;> rfl

theorem buildCodec_record_ok {reg : Reg} {fuel : Nat} {name pkg gname gpkg : String} {sfs : List SchemaField}
    {fs : List GoField} {oe : Bool} {cd : Codec} :
    buildCodec reg fuel (recordSchema name pkg sfs) (some (.struct gname gpkg fs)) oe = .ok cd ↔
      ∃ n cs ts, fuel = n + 2 ∧ buildFields reg n sfs (some fs) = .ok (cs, ts) ∧
        cd = .record (zeroFields fs) cs ts := by
  constructor
  · intro h
    obtain ⟨n, rfl, hk⟩ := buildCodec_ok_fuel (fun _ => GoType.noConfusion) rfl h
    obtain ⟨o, cs, ts, ho, hb, rfl⟩ := buildKind_inv_record rfl rfl hk
    cases ho
    exact ⟨n, cs, ts, rfl, hb, rfl⟩
  · rintro ⟨n, cs, ts, rfl, hbf, rfl⟩
    rw [buildCodec_kind (fun _ => GoType.noConfusion) rfl, buildKind_record rfl rfl]
    exact congrArg _ hbf

/-- the Go field `buildFields` pairs a schema field with: the last one of that name, with its index -/
def fieldFound (sf : SchemaField) : Option (List GoField) → Option (Nat × GoField)
  | some fs => lookupField sf.name fs 0 none
  | none => none

/-- the codec `buildFields` builds for one schema field: against the Go field found for it, or untyped -/
def fieldBuild (reg : Reg) (m : Nat) (sf : SchemaField) (gfs : Option (List GoField)) : Except String Codec :=
  match fieldFound sf gfs with
  | some (_, gf) => buildCodec reg m sf.type (some gf.type) (omitEmptyTag gf.jsonTag)
  | none => buildCodec reg m sf.type none false

theorem buildFields_succ_cons (reg : Reg) (m : Nat) (sf : SchemaField) (sfs : List SchemaField)
    (gfs : Option (List GoField)) :
    buildFields reg (m + 1) (sf :: sfs) gfs =
      (match fieldBuild reg m sf gfs, buildFields reg m sfs gfs with
       | .ok c, .ok (cs, ts) => .ok (c :: cs, (fieldFound sf gfs).map (·.1) :: ts)
       | .error e, _ => .error e
       | _, .error e => .error e) := by
  cases gfs <;> rfl

theorem buildFields_cons_ok {reg : Reg} {fuel : Nat} {sf : SchemaField} {sfs : List SchemaField}
    {gfs : Option (List GoField)} {cs : List Codec} {ts : List (Option Nat)} :
    buildFields reg fuel (sf :: sfs) gfs = .ok (cs, ts) ↔
      ∃ m c cs' ts', fuel = m + 1 ∧ fieldBuild reg m sf gfs = .ok c ∧ buildFields reg m sfs gfs = .ok (cs', ts') ∧
        cs = c :: cs' ∧ ts = (fieldFound sf gfs).map (·.1) :: ts' := by
  cases fuel with
  | zero => exact ⟨fun h => (nomatch h), fun ⟨_, _, _, _, h, _⟩ => (nomatch h)⟩
  | succ m =>
    rw [buildFields_succ_cons]
    constructor
    · intro h
      split at h
      · cases h; exact ⟨m, _, _, _, rfl, ‹_›, ‹_›, rfl, rfl⟩
      · cases h
      · cases h
    · rintro ⟨m', c, cs', ts', hm, hc, hr, rfl, rfl⟩
      cases hm
      rw [hc, hr]
end Avro
