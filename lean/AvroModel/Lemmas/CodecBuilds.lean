import AvroModel.Lemmas.Governs
/-! Lemmas for C15 `codec_builds`: for the supported fragment of Go types, `buildCodec` succeeds on the
generated schema. Success is stated for *all* fuels from some bound on (`BuildsFrom`), so no fuel
monotonicity of `buildCodec` is needed. -/
namespace Avro

/-- `buildCodec` succeeds with every fuel from `N` on -/
def BuildsFrom (reg : Reg) (N : Nat) (s : Schema) (typ : Option GoType) (oe : Bool) : Prop :=
  ∀ fuel, N ≤ fuel → ∃ c, buildCodec reg fuel s typ oe = .ok c

theorem buildsFrom_mono {reg : Reg} {N M : Nat} {s : Schema} {typ : Option GoType} {oe : Bool}
    (h : BuildsFrom reg N s typ oe) (hle : N ≤ M) : BuildsFrom reg M s typ oe :=
  fun fuel hf => h fuel (Nat.le_trans hle hf)

theorem buildsFrom_step {reg : Reg} {N k : Nat} {s s' : Schema} {typ typ' : Option GoType} {oe oe' : Bool}
    (h : BuildsFrom reg N s typ oe)
    (step : ∀ n c, buildCodec reg n s typ oe = .ok c → ∃ c', buildCodec reg (n + k) s' typ' oe' = .ok c') :
    BuildsFrom reg (N + k) s' typ' oe' := by
  intro fuel hf
  obtain ⟨n, rfl⟩ : ∃ n, fuel = n + k := ⟨fuel - k, by omega⟩
  obtain ⟨c, hc⟩ := h n (by omega)
  exact step n c hc

theorem buildsFrom_union {reg : Reg} {N : Nat} {x : Schema} {typ : Option GoType} {oe : Bool}
    (h : BuildsFrom reg N x typ oe) : BuildsFrom reg (N + 3) (nullableSchema x) typ oe :=
  buildsFrom_step h fun _ _ hc => ⟨_, build_union_ok hc⟩

theorem buildsFrom_ptr {reg : Reg} {N : Nat} {s : Schema} {e : GoType} {oe : Bool}
    (h1 : s.type ≠ "union") (h2 : s.type ≠ "null") (h : BuildsFrom reg N s (some e) false) :
    BuildsFrom reg (N + 1) s (some (.ptr e)) oe :=
  buildsFrom_step h fun _ _ hc => ⟨_, build_ptr_ok h1 h2 hc⟩

theorem buildsFrom_array {reg : Reg} {N : Nat} {u : Schema} {e : GoType} {oe : Bool}
    (h : BuildsFrom reg N u (some e) false) : BuildsFrom reg (N + 2) (arraySchema u) (some (.slice e)) oe :=
  buildsFrom_step h fun n c hc => ⟨_, buildCodec_array_ok.mpr ⟨n, c, rfl, hc, rfl⟩⟩

theorem buildsFrom_map {reg : Reg} {N : Nat} {u : Schema} {v : GoType} {oe : Bool}
    (h : BuildsFrom reg N u (some v) false) : BuildsFrom reg (N + 2) (mapSchema u) (some (.map .string v)) oe :=
  buildsFrom_step h fun _ _ hc => ⟨_, build_map_ok hc⟩

theorem buildsFrom_record {reg : Reg} {N : Nat} {name pkg gn gp : String} {sfs : List SchemaField} {fs : List GoField}
    {oe : Bool} (h : ∀ fuel, N ≤ fuel → ∃ r, buildFields reg fuel sfs (some fs) = .ok r) :
    BuildsFrom reg (N + 2) (recordSchema name pkg sfs) (some (.struct gn gp fs)) oe := by
  intro fuel hf
  obtain ⟨n, rfl⟩ : ∃ n, fuel = n + 2 := ⟨fuel - 2, by omega⟩
  obtain ⟨⟨cs, ts⟩, hc⟩ := h n (by omega)
  exact ⟨_, buildCodec_record_ok.mpr ⟨n, cs, ts, rfl, hc, rfl⟩⟩

mutual
/-- The fragment of Go types for which `codec_builds` is proved: bool, int16/int32/int64 (and int),
float32/float64, string, []byte, slices, string-keyed maps, pointers and structs of such types, where
in every struct the JSON names of the included fields are distinct (excluded fields may have any
type). Not in the fragment: int8 (no codec for it), Go arrays (schema but no codec), named and
registered types (see C20), unsupported kinds. -/
def GoType.Supported : GoType → Prop
  | .bool | .float32 | .float64 | .string => True
  | .int w => w = 64 ∨ w = 32 ∨ w = 16
  | .slice e => e = .uint 8 ∨ e.Supported
  | .map k v => k = .string ∧ v.Supported
  | .ptr e => e.Supported
  | .struct _ _ fs => ((fs.map nameForField).filter (· != "-")).Nodup ∧ GoField.SupportedList fs
  | _ => False
def GoField.SupportedList : List GoField → Prop
  | [] => True
  | .mk n e j b t :: fs => (nameForField (.mk n e j b t) = "-" ∨ t.Supported) ∧ GoField.SupportedList fs
end

theorem supportedList_mem {fs : List GoField} (h : GoField.SupportedList fs) {f : GoField} (hf : f ∈ fs)
    (hn : nameForField f ≠ "-") : f.type.Supported := by
  induction fs with
  | nil => cases hf
  | cons g gs ih =>
    obtain ⟨n, e, j, b, t⟩ := g
    simp only [GoField.SupportedList] at h
    cases hf with
    | head => rcases h.1 with h' | h'
              · exact absurd h' hn
              · exact h'
    | tail _ h' => exact ih h.2 h'

theorem supported_shape {t : GoType} (h : t.Supported) :
    (∀ n, t ≠ .ref n) ∧ t.strip = t ∧ (∀ w, t ≠ .uint w) := by
  cases t <;> simp only [GoType.Supported] at h <;>
    first | exact ⟨fun n hn => (by cases hn), rfl, fun w hw => (by cases hw)⟩

theorem supported_not_byte (env : TEnv) {t : GoType} (h : t.Supported) : isByteKind env t = false := by
  cases t <;> simp only [GoType.Supported] at h <;> rfl

theorem fieldsOf_mem {rec : GoType → Gen Schema} {fs : List GoField} {r : List SchemaField} (h : FieldsOf rec fs r)
    {sf : SchemaField} (hsf : sf ∈ r) :
    ∃ f s, f ∈ fs ∧ nameForField f ≠ "-" ∧ rec f.type = .ok s ∧
      sf = .mk (nameForField f) (omitWrap (omitEmptyTag f.jsonTag) s) := by
  induction h with
  | nil => cases hsf
  | skip _ _ ih =>
    obtain ⟨f, s, h1, h2⟩ := ih hsf
    exact ⟨f, s, List.mem_cons_of_mem _ h1, h2⟩
  | @keep f fs r s hn hr _ ih =>
    cases hsf with
    | head => exact ⟨f, s, List.mem_cons_self, hn, hr, rfl⟩
    | tail _ h' =>
      obtain ⟨f', s', h1, h2⟩ := ih h'
      exact ⟨f', s', List.mem_cons_of_mem _ h1, h2⟩

theorem lookup_of_nodup {fs : List GoField} (hnd : ((fs.map nameForField).filter (· != "-")).Nodup)
    {f : GoField} (hf : f ∈ fs) (hn : nameForField f ≠ "-") :
    ∃ i, lookupField (nameForField f) fs 0 none = some (i, f) := by
  obtain ⟨pre, post, rfl⟩ := List.append_of_mem hf
  refine ⟨0 + pre.length, lookupField_last pre post f 0 none hn ?_⟩
  intro g hg heq
  have hne : (nameForField f != "-") = true := by simpa using hn
  simp only [List.map_append, List.map_cons, List.filter_append, List.filter_cons, hne, if_true] at hnd
  have h2 := (List.nodup_append.mp hnd).2.1
  have h3 := (List.nodup_cons.mp h2).1
  apply h3
  rw [List.mem_filter]
  exact ⟨List.mem_map.mpr ⟨g, hg, heq⟩, hne⟩

theorem buildFields_fwd (reg : Reg) (gfs : List GoField) (sfs : List SchemaField)
    (h : ∀ sf ∈ sfs, ∃ N, ∀ fuel, N ≤ fuel → ∃ c, fieldBuild reg fuel sf (some gfs) = .ok c) :
    ∃ N, ∀ fuel, N ≤ fuel → ∃ r, buildFields reg fuel sfs (some gfs) = .ok r := by
  induction sfs with
  | nil => exact ⟨1, fun fuel hf => by
      obtain ⟨n, rfl⟩ : ∃ n, fuel = n + 1 := ⟨fuel - 1, by omega⟩
      exact ⟨_, rfl⟩⟩
  | cons sf sfs ih =>
    obtain ⟨N1, h1⟩ := h sf List.mem_cons_self
    obtain ⟨N2, h2⟩ := ih (fun sf' hs => h sf' (List.mem_cons_of_mem _ hs))
    refine ⟨max N1 N2 + 1, fun fuel hf => ?_⟩
    obtain ⟨n, rfl⟩ : ∃ n, fuel = n + 1 := ⟨fuel - 1, by omega⟩
    obtain ⟨c, hc⟩ := h1 n (by omega)
    obtain ⟨⟨cs, ts⟩, hr⟩ := h2 n (by omega)
    exact ⟨_, buildFields_cons_ok.mpr ⟨n, c, cs, ts, rfl, hc, hr, rfl, rfl⟩⟩

theorem buildsFrom_prim (reg : Reg) (env : TEnv) {t : GoType} {p : String} (hT : t.Supported)
    (hp : primOf env t = some p) (oe : Bool) : BuildsFrom reg 2 (.prim p) (some t) oe := by
  intro fuel hf
  obtain ⟨n, rfl⟩ : ∃ n, fuel = n + 2 := ⟨fuel - 2, by omega⟩
  cases t <;> simp only [GoType.Supported] at hT <;> simp only [primOf] at hp <;> try (cases hp; done)
  case bool => cases hp; exact ⟨_, buildCodec_prim_bool reg n oe⟩
  case int w => cases hp; exact ⟨_, buildCodec_prim_int reg n oe hT⟩
  case float32 => cases hp; exact ⟨_, buildCodec_prim_float32 reg n oe⟩
  case float64 => cases hp; exact ⟨_, buildCodec_prim_float64 reg n oe⟩
  case string => cases hp; exact ⟨_, buildCodec_prim_string reg n oe⟩
  case slice e =>
    rcases hT with rfl | he
    · cases hp; exact ⟨_, buildCodec_prim_bytes reg n oe⟩
    · simp [supported_not_byte env he] at hp

/-- what is shown for every supported type `T` with generated schema `S`: from some fuel on the codec builds
against `T` for the core of `S` (what is left below the nullable wrapper). The core is what pointers and
`omitempty` build on; the codec for `S` itself follows (`BuildsFor.whole`). -/
def BuildsFor (reg : Reg) (T : GoType) (S : Schema) : Prop :=
  ∃ x, RegShape S x ∧ ∃ N, ∀ oe, BuildsFrom reg N x (some T) oe

theorem regShape_builds {reg : Reg} {S x : Schema} {T : GoType} {N : Nat} {oe : Bool} (hx : RegShape S x)
    (h : BuildsFrom reg N x (some T) oe) : BuildsFrom reg (N + 3) S (some T) oe := by
  cases hx with
  | plain => exact buildsFrom_mono h (by omega)
  | nullable => exact buildsFrom_union h

theorem BuildsFor.whole {reg : Reg} {T : GoType} {S : Schema} (h : BuildsFor reg T S) :
    ∃ N, ∀ oe, BuildsFrom reg N S (some T) oe :=
  let ⟨_, hx, N, h⟩ := h; ⟨N + 3, fun oe => regShape_builds hx (h oe)⟩

theorem buildsFor_field {reg : Reg} {t : GoType} {u : Schema} (oe : Bool) (ih : BuildsFor reg t u) :
    ∃ N, BuildsFrom reg N (omitWrap oe u) (some t) oe := by
  cases oe with
  | true => obtain ⟨x, hx, N, h⟩ := ih; rw [hx.omitWrap]; exact ⟨N + 3, buildsFrom_union (h true)⟩
  | false => obtain ⟨N, h⟩ := ih.whole; exact ⟨N, by simpa [omitWrap] using h false⟩

theorem codec_builds_aux (reg : Reg) (sreg : SReg) (env : TEnv) :
    ∀ m ps T S, schemaForType sreg env m ps T = .ok S → T.Supported → BuildsFor reg T S := by
  refine gen_induct (P := fun T S => T.Supported → BuildsFor reg T S) ?_ (fun _ _ _ _ _ hT => hT.elim) ?_
  · -- supported types are not keys of the registry
    intro t s h hT
    cases t <;> first | exact hT.elim | cases h
  · intro rec t s ih _ hk hT
    rw [(supported_shape hT).2.1] at hk
    cases hk with
    | prim hp => exact ⟨_, .plain (primOf_plain hp).1 (primOf_plain hp).2, 2, buildsFrom_prim reg env hT hp⟩
    | slice hb hu =>
      rcases hT with rfl | he
      · cases hb
      · obtain ⟨N, h⟩ := (ih _ _ hu he).whole
        exact ⟨_, .array _, _, fun oe => buildsFrom_array (h false)⟩
    | array => exact hT.elim
    | map _ hu =>
      obtain ⟨rfl, hv⟩ := hT
      obtain ⟨N, h⟩ := (ih _ _ hu hv).whole
      exact ⟨_, .map _, _, fun oe => buildsFrom_map (h false)⟩
    | ptr hu =>
      obtain ⟨x, hx, N, h⟩ := ih _ _ hu hT
      exact ⟨x, hx.ptrWrap, _, fun oe => buildsFrom_ptr hx.core_plain.1 hx.core_plain.2 (h false)⟩
    | @struct name pkg fs sfs hfo =>
      have hfields : ∀ sf ∈ sfs, ∃ N, ∀ fuel, N ≤ fuel → ∃ c, fieldBuild reg fuel sf (some fs) = .ok c := by
        intro sf hsf
        obtain ⟨f, s, hf, hn, hr, rfl⟩ := fieldsOf_mem hfo hsf
        obtain ⟨i, hl⟩ := lookup_of_nodup hT.1 hf hn
        simp only [fieldBuild, fieldFound, SchemaField.name, SchemaField.type, hl]
        exact buildsFor_field (omitEmptyTag f.jsonTag) (ih _ _ hr (supportedList_mem hT.2 hf hn))
      obtain ⟨N, hN⟩ := buildFields_fwd reg fs sfs hfields
      exact ⟨_, .record _ _ _, _, fun oe => buildsFrom_record hN⟩

end Avro
