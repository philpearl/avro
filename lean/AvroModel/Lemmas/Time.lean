import AvroModel.Time
/-! Lemmas for the time model (`AvroModel/Time.lean`): the `Safe` judgement (no Go run-time panic) with
a rule for each primitive of `parseTime`, and the digit, fraction-loop and wrap-around facts behind
C18 and C19. -/
namespace Avro.Time

open Avro

@[simp] theorem ok_bind {α β} (a : α) (f : α → TOutcome β) : (TOutcome.ok a >>= f) = f a := rfl
@[simp] theorem err_bind {α β} (e) (f : α → TOutcome β) : (TOutcome.err e >>= f) = .err e := rfl
@[simp] theorem panic_bind {α β} (k) (f : α → TOutcome β) : (TOutcome.panic k >>= f) = .panic k := rfl
@[simp] theorem ok_bind' {α β} (a : α) (f : α → TOutcome β) : (TOutcome.ok a).bind f = f a := rfl
@[simp] theorem err_bind' {α β} (e) (f : α → TOutcome β) : (TOutcome.err e : TOutcome α).bind f = .err e := rfl
@[simp] theorem panic_bind' {α β} (k) (f : α → TOutcome β) : (TOutcome.panic k : TOutcome α).bind f = .panic k := rfl
@[simp] theorem pure_eq {α} (a : α) : (pure a : TOutcome α) = .ok a := rfl

/-- Hoare-style judgement: no panic, and `P` of the result on success -/
def Safe {α} (P : α → Prop) (x : TOutcome α) : Prop :=
  match x with
  | .ok a => P a
  | .err _ => True
  | .panic _ => False

theorem Safe.noPanic {α} {P : α → Prop} {x : TOutcome α} (h : Safe P x) : ∀ k, x ≠ .panic k := by
  intro k hk; subst hk; exact h

theorem Safe.mono {α} {P Q : α → Prop} {x : TOutcome α} (h : Safe P x) (hpq : ∀ a, P a → Q a) :
    Safe Q x := by
  cases x with
  | ok a => exact hpq a h
  | err e => trivial
  | panic k => exact h

theorem safe_ok {α} {P : α → Prop} {a : α} (h : P a) : Safe P (TOutcome.ok a) := h
theorem safe_err {α} {P : α → Prop} (e) : Safe P (TOutcome.err e : TOutcome α) := trivial

theorem safe_bind {α β} {Q : α → Prop} {P : β → Prop} {x : TOutcome α} {f : α → TOutcome β}
    (hx : Safe Q x) (hf : ∀ a, Q a → Safe P (f a)) : Safe P (x >>= f) := by
  cases x with
  | ok a => exact hf a hx
  | err e => trivial
  | panic k => exact hx

theorem safe_check (c e) : Safe (fun _ => c = true) (check c e) := by
  unfold check; split
  · assumption
  · trivial

theorem safe_num {r e} (h : Safe (fun _ => True) r) : Safe (fun _ => True) (num r e) := by
  unfold num
  refine safe_bind h fun o _ => ?_
  cases o
  · trivial
  · trivial

theorem idx_of_lt {s : Bytes} {k : Nat} (h : k < s.length) : idx s k = .ok s[k].toNat := by
  unfold idx; simp [h]

theorem safe_idx {s : Bytes} {k : Nat} (h : k < s.length) : Safe (fun _ => True) (idx s k) := by
  rw [idx_of_lt h]; trivial

theorem slice_of_le {s : Bytes} {a b : Nat} (hab : a ≤ b) (hb : b ≤ s.length) :
    slice s a b = .ok ((s.take b).drop a) := by
  unfold slice; simp [hab, hb]

/-- Stated with the continuation so that proofs about `atoiN(in[a:b])` never pass through
`(ok s).bind atoiN = atoiN s` as a definitional step: the kernel checks that one by evaluating
`atoiN` on bytes it does not know, and `subZero` on such a byte is unary arithmetic there. -/
theorem slice_bind {β} {s : Bytes} {a b : Nat} (hab : a ≤ b) (hb : b ≤ s.length)
    (f : Bytes → TOutcome β) : (slice s a b).bind f = f ((s.take b).drop a) := by
  rw [slice_of_le hab hb]; rfl

theorem sliceFrom_of_le {s : Bytes} {a : Int} (h0 : 0 ≤ a) (h1 : a ≤ s.length) :
    sliceFrom s a = .ok (s.drop a.toNat) := by
  unfold sliceFrom; simp [h0, h1]

theorem sliceFrom_append (a b : Bytes) {n : Int} (h : n = a.length) : sliceFrom (a ++ b) n = .ok b := by
  subst h; simp [sliceFrom]; omega

theorem sliceFrom_cons (b : UInt8) (s : Bytes) : sliceFrom (b :: s) 1 = .ok s := sliceFrom_append [b] s rfl

theorem safe_sliceFrom {s : Bytes} {a : Int} (h0 : 0 ≤ a) (h1 : a ≤ s.length) :
    Safe (fun r => r.length = s.length - a.toNat) (sliceFrom s a) := by
  rw [sliceFrom_of_le h0 h1]; simp [Safe]

theorem safe_atoi2 {s : Bytes} (h : 2 ≤ s.length) : Safe (fun _ => True) (atoi2 s) := by
  unfold atoi2
  rw [idx_of_lt (show 1 < s.length by omega), idx_of_lt (show 0 < s.length by omega)]
  simp only [ok_bind]
  split <;> trivial

theorem safe_atoi4 {s : Bytes} (h : 4 ≤ s.length) : Safe (fun _ => True) (atoi4 s) := by
  unfold atoi4
  rw [idx_of_lt (show 3 < s.length by omega), idx_of_lt (show 0 < s.length by omega),
    idx_of_lt (show 1 < s.length by omega), idx_of_lt (show 2 < s.length by omega)]
  simp only [ok_bind]
  split <;> trivial

/-- a number field of `parseTime`, `atoiN(in[a:b])`: the slice is in range and has the `k` bytes `atoiN` indexes -/
theorem safe_field {f : Bytes → TOutcome (Option Nat)} {k : Nat}
    (hf : ∀ {s : Bytes}, k ≤ s.length → Safe (fun _ => True) (f s)) {s : Bytes} {a b : Nat}
    (hab : a + k ≤ b) (hb : b ≤ s.length) (e : TErr) :
    Safe (fun _ => True) (num ((slice s a b).bind f) e) := by
  rw [slice_bind (by omega) hb]
  exact safe_num (hf (by simp; omega))

theorem dig_toNat (n : Nat) : (dig n).toNat = 48 + n % 10 := by
  unfold dig
  simp [Nat.toUInt8]
  omega

theorem subZero_dig (n : Nat) : subZero (48 + n % 10) = n % 10 := by unfold subZero; omega

@[simp] theorem atoi2_d2 (n : Nat) (h : n ≤ 99) : atoi2 [dig (n / 10), dig n] = .ok (some n) := by
  simp only [atoi2, idx, List.getElem?_cons_succ, List.getElem?_cons_zero, dig_toNat, subZero_dig,
    ok_bind, pure_eq]
  rw [if_neg (by omega)]
  congr 2; omega

@[simp] theorem atoi4_d4 (n : Nat) (h : n ≤ 9999) :
    atoi4 [dig (n / 1000), dig (n / 100), dig (n / 10), dig n] = .ok (some n) := by
  simp only [atoi4, idx, List.getElem?_cons_succ, List.getElem?_cons_zero, dig_toNat, subZero_dig,
    ok_bind, pure_eq]
  rw [if_neg (by omega)]
  congr 2; omega

/-- the `k` low decimal digits of `n`, most significant first -/
def digitsOf : Nat → Nat → List (Fin 10)
  | 0, _ => []
  | k + 1, n => ⟨n / 10 ^ k % 10, Nat.mod_lt _ (by decide)⟩ :: digitsOf k n

theorem digitsVal_cons (v : Nat) (d : Fin 10) (ds : List (Fin 10)) :
    digitsVal v (d :: ds) = digitsVal (v * 10 + d.val) ds := rfl

theorem digitsVal_digitsOf (k n a : Nat) : digitsVal a (digitsOf k n) = a * 10 ^ k + n % 10 ^ k := by
  induction k generalizing a with
  | zero => simp [digitsOf, digitsVal, Nat.mod_one]
  | succ k ih =>
    rw [digitsOf, digitsVal_cons, ih, Nat.pow_succ, Nat.mod_mul, Nat.add_mul, Nat.mul_assoc,
      Nat.mul_comm 10, Nat.mul_comm (10 ^ k) (n / 10 ^ k % 10), Nat.add_assoc, Nat.add_comm (n % 10 ^ k)]

theorem digits9_eq (n : Nat) : digits9 n = digitsOf 9 n := by simp [digits9, digitsOf]

theorem digitsVal_replicate (v : Nat) : ∀ j, digitsVal v (List.replicate j 0) = v * 10 ^ j
  | 0 => by simp [digitsVal]
  | j + 1 => by
    rw [List.replicate_succ, digitsVal_cons, digitsVal_replicate _ j]
    simp [Nat.pow_succ]; rw [Nat.mul_assoc, Nat.mul_comm 10]

theorem dig_fin_toNat (d : Fin 10) : (dig d.val).toNat = 48 + d.val := by
  rw [dig_toNat]; have := d.isLt; omega

/-- The loop over a run of digits followed by a non-digit `c`, entered with `mult = 10^j`: it stops
at `c`, and `val * mult` has taken in the first `j` digits, right-padded with zeros. -/
theorem fracLoop_digits (rest : Bytes) (c : UInt8) (hc : ¬ (48 ≤ c.toNat ∧ c.toNat ≤ 57)) :
    ∀ (ds : List (Fin 10)) (pos : Nat) (i : Int) (val j : Nat),
    ∃ v m, fracLoop (ds.map (fun d => dig d.val) ++ c :: rest) pos i val (10 ^ j)
        = (((pos + ds.length : Nat) : Int) - 1, v, m) ∧
      v * m = digitsVal val (ds.take j ++ List.replicate (j - ds.length) 0)
  | [], pos, i, val, j => ⟨val, 10 ^ j, by simp [fracLoop, hc], by simp [digitsVal_replicate]⟩
  | d :: ds, pos, i, val, j => by
    have hd : 48 ≤ (dig d.val).toNat ∧ (dig d.val).toNat ≤ 57 := by
      rw [dig_fin_toNat]; have := d.isLt; omega
    have hsub : (dig d.val).toNat - 48 = d.val := by rw [dig_fin_toNat]; omega
    simp only [List.map_cons, List.cons_append, fracLoop, hd, and_self, if_true, hsub]
    cases j with
    | zero =>
      -- `mult = 1`: the digits that count are in, further ones are skipped
      obtain ⟨v, m, hl, hv⟩ := fracLoop_digits rest c hc ds (pos + 1) pos val 0
      rw [Nat.pow_zero] at hl ⊢
      exact ⟨v, m, by simp [hl]; omega, by simpa using hv⟩
    | succ j =>
      have hgt : 10 ^ (j + 1) > 1 := Nat.one_lt_pow (by omega) (by omega)
      have hdiv : 10 ^ (j + 1) / 10 = 10 ^ j := by rw [Nat.pow_succ]; omega
      obtain ⟨v, m, hl, hv⟩ := fracLoop_digits rest c hc ds (pos + 1) pos (val * 10 + d.val) j
      exact ⟨v, m, by simp [hgt, hdiv, hl]; omega, by simpa [digitsVal_cons] using hv⟩

/-- on an empty range the loop leaves `i` alone; otherwise `-1 ≤ i < len(remaining)`, which keeps
`remaining[i+1:]` (parse.go:90) in range -/
theorem fracLoop_bounds : ∀ (s : Bytes) (pos : Nat) (i : Int) (val mult : Nat),
    (s = [] ∧ (fracLoop s pos i val mult).1 = i) ∨
    ((pos : Int) - 1 ≤ (fracLoop s pos i val mult).1 ∧ (fracLoop s pos i val mult).1 < (pos : Int) + s.length)
  | [], _, _, _, _ => .inl ⟨rfl, rfl⟩
  | c :: rest, pos, i, val, mult => by
    have ih := fun v m => fracLoop_bounds rest (pos + 1) pos v m
    simp only [fracLoop, List.length_cons]
    refine .inr ?_
    split
    · split
      · rcases ih (val * 10 + (c.toNat - 48)) (mult / 10) with ⟨rfl, h⟩ | h <;> simp at h ⊢ <;> omega
      · rcases ih val mult with ⟨rfl, h⟩ | h <;> simp at h ⊢ <;> omega
    · simp; omega

theorem daysFromCivil_epoch : daysFromCivil 1970 1 1 = 0 := by decide

theorem daysInMonth_le (y : Int) (m : Nat) : daysInMonth y m ≤ 31 := by
  unfold daysInMonth; split <;> (try split) <;> omega

theorem wrapS_id {w : Nat} (hw : 1 ≤ w) {x : Int} (h : inRange w x) : wrapS w x = x := by
  obtain ⟨w, rfl⟩ := Nat.exists_eq_add_one.mpr hw
  unfold inRange at h; unfold wrapS
  simp only [Nat.add_sub_cancel, Int.pow_succ] at h ⊢
  rw [Int.emod_eq_of_lt (by omega) (by omega)]; omega

end Avro.Time
