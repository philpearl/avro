import AvroModel.Lemmas.SchemaGen
import AvroModel.Lemmas.BuildSteps
/-! Lemmas for C20: the codec at the hole of a context (`nav`), the shape of the schemas on a path
(`RegShape`), and the governing lemma by induction over the schema around a position (`CtxSchema`). -/
namespace Avro

theorem buildFields_at {reg : Reg} {gfs : List GoField} {pre' post' : List SchemaField} {sf : SchemaField} :
    ∀ {n : Nat} {cs : List Codec} {ts : List (Option Nat)},
      buildFields reg n (pre' ++ sf :: post') (some gfs) = .ok (cs, ts) →
      ∃ m fc, cs[pre'.length]? = some fc ∧ fieldBuild reg m sf (some gfs) = .ok fc := by
  induction pre' with
  | nil =>
    intro n cs ts h
    obtain ⟨m, c, cs', ts', _, hc, _, rfl, _⟩ := buildFields_cons_ok.mp h
    exact ⟨m, c, rfl, hc⟩
  | cons a pre' ih =>
    intro n cs ts h
    obtain ⟨m, c, cs', ts', _, _, hrest, rfl, _⟩ := buildFields_cons_ok.mp h
    obtain ⟨m', fc, h1, h2⟩ := ih hrest
    exact ⟨m', fc, by simpa using h1, h2⟩

/-- no later sibling field has the JSON name of a field on the path (the record codec maps a schema
field to the *last* Go field of that name) -/
def Ctx.NoShadow : Ctx → Prop
  | .hole => True
  | .ptr c | .slice c | .array _ c | .map _ c => c.NoShadow
  | .field _ _ _ fname j b c post =>
    (∀ g ∈ post, nameForField g ≠ nameForField (.mk fname true j b .bool)) ∧ c.NoShadow

/-- The codec at the hole of a context inside a built codec tree. The nullable wrapper of a position
(`unionOne`) sits above the pointer codecs of that position; `stripped` says it has been passed already.
`nullable`: the registered schema itself is a nullable union. -/
def nav (nullable : Bool) : Ctx → Bool → Codec → Option Codec
  | .hole, stripped, c =>
    if nullable && !stripped then
      (match c with
       | .unionOne l _ => some l
       | _ => none)
    else some c
  | .ptr c, false, .unionOne (.pointer x) _ => nav nullable c true x
  | .ptr c, _, .pointer x => nav nullable c true x
  | .slice c, _, .array item _ => nav nullable c false item
  | .map _ c, _, .map v _ => nav nullable c false v
  | .field _ _ pre _ j _ c _, _, .record _ cs _ =>
    match cs[((pre.map nameForField).filter (· != "-")).length]? with
    | some fc =>
      if omitEmptyTag j then
        (match fc with
         | .unionOne x _ => nav nullable c true x
         | _ => none)
      else nav nullable c false fc
    | none => none
  | _, _, _ => none

/-- the shape of a registered schema: plain, or the nullable union of a plain one; `core` is what the
registered builder is handed -/
inductive RegShape : Schema → Schema → Prop
  | plain {rs : Schema} : rs.type ≠ "union" → rs.type ≠ "null" → RegShape rs rs
  | nullable {x : Schema} : x.type ≠ "union" → x.type ≠ "null" → RegShape (nullableSchema x) x

/-- no registered builder returns the plain string codec (so the `unionNullString` fast path of
`buildUnion` is never taken above a registered type) -/
theorem regLookup_not_string {reg : Reg} {t : GoType} {b : Schema → Except String Codec}
    (h : regLookup reg t = some b) : ∀ s o, b s ≠ .ok (.string o) := by
  intro s o hb
  cases t <;> simp only [regLookup] at h <;> try (cases h; done)
  case time =>
    split at h <;> cases h
    rcases buildTime_inv hb with ⟨-, h⟩ | ⟨-, _, h⟩ | ⟨-, h⟩ <;> cases h
  case nullT k =>
    split at h <;> cases h
    rcases buildNull_inv hb with ⟨-, -, h⟩ | ⟨-, -, h⟩ | ⟨-, -, h⟩ | ⟨-, -, h⟩ | ⟨-, -, h⟩ | ⟨-, -, h⟩ <;> cases h
  case custom id u =>
    cases hc : reg.custom id with
    | none => simp [hc] at h
    | some acc =>
      simp only [hc] at h; cases h
      simp only at hb
      split at hb <;> cases hb

theorem nav_not_string {N : Bool} {c : Ctx} {cd l : Codec} {b : Schema → Except String Codec} {core : Schema}
    (hb : ∀ s o, b s ≠ .ok (.string o)) (h1 : nav N c true cd = some l) (h2 : b core = .ok l) :
    ∀ o, cd ≠ .string o := by
  intro o ho
  subst ho
  cases c <;> simp [nav] at h1
  subst h1
  exact hb _ _ h2

theorem RegShape.core_plain {S x : Schema} (h : RegShape S x) : x.type ≠ "union" ∧ x.type ≠ "null" := by
  cases h with
  | plain h1 h2 => exact ⟨h1, h2⟩
  | nullable h1 h2 => exact ⟨h1, h2⟩

theorem RegShape.array (u : Schema) : RegShape (arraySchema u) (arraySchema u) :=
  .plain (show "array" ≠ "union" by decide) (show "array" ≠ "null" by decide)
theorem RegShape.map (u : Schema) : RegShape (mapSchema u) (mapSchema u) :=
  .plain (show "map" ≠ "union" by decide) (show "map" ≠ "null" by decide)
theorem RegShape.record (nm pkg : String) (fs : List SchemaField) : RegShape (recordSchema nm pkg fs) (recordSchema nm pkg fs) :=
  .plain (show "record" ≠ "union" by decide) (show "record" ≠ "null" by decide)

theorem RegShape.unique {S x y : Schema} (hx : RegShape S x) (hy : RegShape S y) : x = y := by
  cases hx with
  | plain h1 _ =>
    cases hy with
    | plain => rfl
    | nullable => exact absurd rfl h1
  | nullable =>
    generalize hS : nullableSchema x = S at hy
    cases hy with
    | plain h1 _ => subst hS; exact absurd rfl h1
    | nullable => simp only [nullableSchema, Schema.mk.injEq, List.cons.injEq, and_true, true_and] at hS; exact hS

theorem RegShape.omitWrap {u x : Schema} (h : RegShape u x) : omitWrap true u = nullableSchema x := by
  cases h with
  | plain h1 _ => exact omitWrap_true h1
  | nullable => exact omitWrap_nullable true x

theorem RegShape.ptrWrap {u x : Schema} (h : RegShape u x) : RegShape (ptrWrap u) x := by
  cases h with
  | plain h1 h2 =>
    by_cases ham : u.type = "array" ∨ u.type = "map"
    · rw [ptrWrap_eq_self u (Or.inr ham)]; exact .plain h1 h2
    · rw [ptrWrap_eq_nullable u h1 (fun h => ham (.inl h)) (fun h => ham (.inr h))]; exact .nullable h1 h2
  | nullable h1 h2 => rw [ptrWrap_eq_self _ (Or.inl (nullable_type x))]; exact .nullable h1 h2

theorem ctxSchema_shape {rs core : Schema} (hshape : RegShape rs core) {c : Ctx} {S : Schema}
    (h : CtxSchema c rs S) : ∃ x, RegShape S x := by
  induction h with
  | hole => exact ⟨core, hshape⟩
  | ptr _ ih => obtain ⟨x, hx⟩ := ih hshape; exact ⟨x, hx.ptrWrap⟩
  | slice _ _ | array _ _ _ => exact ⟨_, .array _⟩
  | map _ _ _ => exact ⟨_, .map _⟩
  | field _ _ _ _ _ _ _ _ _ _ _ _ => exact ⟨_, .record _ _ _⟩

/-- every codec built for `x` against `c[R]` holds `b core` at the hole of `c` -/
def HoleIs (reg : Reg) (R : GoType) (b : Schema → Except String Codec) (N : Bool) (core : Schema)
    (c : Ctx) (stripped : Bool) (x : Schema) : Prop :=
  ∀ fuel oe cd, buildCodec reg fuel x (some (c.fill R)) oe = .ok cd →
    ∃ l, nav N c stripped cd = some l ∧ b core = .ok l

/-- the statement proved along a path: for the schema `S` of a position, and for what is left of it
below its nullable wrapper -/
def GovernsAt (reg : Reg) (R : GoType) (b : Schema → Except String Codec) (N : Bool) (core : Schema)
    (c : Ctx) (S : Schema) : Prop :=
  HoleIs reg R b N core c false S ∧ ∀ x, RegShape S x → HoleIs reg R b N core c true x

theorem GovernsAt.of_plain {reg : Reg} {R : GoType} {b : Schema → Except String Codec} {N : Bool} {core : Schema}
    {c : Ctx} {S : Schema} (hS : RegShape S S) (key : ∀ st, HoleIs reg R b N core c st S) : GovernsAt reg R b N core c S :=
  ⟨key false, fun _ hx => hS.unique hx ▸ key true⟩

/-- **Governing lemma**: whenever `S` is the registered schema `rs` wrapped by the wrappers of the path
`c`, the codec tree built for `S` and `c[R]` holds at the hole of `c` exactly what the registered builder
returns for the core of `rs`. Schema generation does not enter. -/
theorem governs_of_ctxSchema {reg : Reg} {R : GoType} {b : Schema → Except String Codec} {rs core : Schema}
    (hR : regLookup reg R = some b) {c : Ctx} {S : Schema} (h : CtxSchema c rs S) :
    RegShape rs core → c.Included → c.NoShadow → GovernsAt reg R b (rs.type == "union") core c S := by
  have hns := regLookup_not_string hR
  induction h with
  | hole rs =>
    intro hshape _ _
    have hB : HoleIs reg R b (rs.type == "union") core .hole true core := fun fuel oe cd h =>
      ⟨cd, by simp [nav], buildCodec_reg_inv hR hshape.core_plain.1 hshape.core_plain.2 h⟩
    refine ⟨?_, fun x hx => hshape.unique hx ▸ hB⟩
    intro fuel oe cd h
    cases hshape with
    | plain h1 h2 =>
      exact ⟨cd, by simp [nav, h1], buildCodec_reg_inv hR h1 h2 h⟩
    | nullable h1 h2 =>
      obtain ⟨n, c1, hc1, hcase⟩ := buildCodec_nullable_inv h
      have hb1 := buildCodec_reg_inv hR h1 h2 hc1
      cases hcase (fun o ho => hns _ o (ho ▸ hb1))
      exact ⟨c1, by simp [nav, nullable_type], hb1⟩
  | @ptr c rs u hc ih =>
    intro hshape hi hs
    obtain ⟨_, ihB⟩ := ih hshape hi hs
    obtain ⟨x, hx⟩ := ctxSchema_shape hshape hc
    -- the pointer codec sits directly above the codec for the core `x`, below the nullable wrapper if any
    have key : ∀ fuel oe cd, buildCodec reg fuel x (some ((Ctx.ptr c).fill R)) oe = .ok cd →
        ∃ c', cd = .pointer c' ∧ ∃ l, nav (rs.type == "union") c true c' = some l ∧ b core = .ok l := by
      intro fuel oe cd h
      obtain ⟨n', c', _, hc', rfl⟩ := (buildCodec_ptr_ok hx.core_plain.1 hx.core_plain.2).mp h
      exact ⟨c', rfl, ihB x hx n' false c' hc'⟩
    have hB : HoleIs reg R b (rs.type == "union") core (.ptr c) true x := fun fuel oe cd h => by
      obtain ⟨c', rfl, l, hl, hbl⟩ := key fuel oe cd h
      exact ⟨l, by simpa [nav] using hl, hbl⟩
    have hx' := hx.ptrWrap
    refine ⟨?_, fun y hy => hx'.unique hy ▸ hB⟩
    intro fuel oe cd h
    generalize ptrWrap u = S at hx' h
    cases hx' with
    | plain =>
      obtain ⟨c', rfl, l, hl, hbl⟩ := key fuel oe cd h
      exact ⟨l, by simpa [nav] using hl, hbl⟩
    | nullable =>
      obtain ⟨n, c1, hc1, hcase⟩ := buildCodec_nullable_inv h
      obtain ⟨c', rfl, l, hl, hbl⟩ := key n oe c1 hc1
      cases hcase nofun
      exact ⟨l, by simpa [nav] using hl, hbl⟩
  | @slice c rs u _ ih =>
    intro hshape hi hs
    obtain ⟨ihA, _⟩ := ih hshape hi hs
    have key : ∀ st, HoleIs reg R b (rs.type == "union") core (.slice c) st (arraySchema u) := by
      intro st fuel oe cd h
      obtain ⟨n, ci, _, hci, rfl⟩ := buildCodec_array_ok.mp h
      obtain ⟨l, hl, hbl⟩ := ihA n false ci hci
      exact ⟨l, by simpa [nav] using hl, hbl⟩
    exact .of_plain (.array u) key
  | @array c rs u k _ _ =>
    -- `buildCodec` accepts no Go array, so a position below `[n]T` is governed vacuously
    intro _ _ _
    have key : ∀ st, HoleIs reg R b (rs.type == "union") core (.array k c) st (arraySchema u) :=
      fun st fuel oe cd h => (buildCodec_goarray_inv h).elim
    exact .of_plain (.array u) key
  | @map c rs u k _ ih =>
    intro hshape hi hs
    obtain ⟨ihA, _⟩ := ih hshape hi hs
    have key : ∀ st, HoleIs reg R b (rs.type == "union") core (.map k c) st (mapSchema u) := by
      intro st fuel oe cd h
      obtain ⟨n, cv, _, _, hcv, rfl⟩ := buildCodec_map_ok.mp h
      obtain ⟨l, hl, hbl⟩ := ihA n false cv hcv
      exact ⟨l, by simpa [nav] using hl, hbl⟩
    exact .of_plain (.map u) key
  | @field c rs u name pkg pre post fname j bq pre' post' hc hlen ih =>
    intro hshape hi hs
    obtain ⟨ihA, ihB⟩ := ih hshape hi.2 hs.2
    obtain ⟨x, hx⟩ := ctxSchema_shape hshape hc
    let f : GoField := .mk fname true j bq (c.fill R)
    have key : ∀ st, HoleIs reg R b (rs.type == "union") core (.field name pkg pre fname j bq c post) st
        (recordSchema name pkg (pre' ++ SchemaField.mk (nameForField f) (omitWrap (omitEmptyTag j) u) :: post')) := by
      intro st fuel oe cd h
      obtain ⟨n, cs, ts, _, hbf, rfl⟩ := buildCodec_record_ok.mp h
      obtain ⟨m2, fc, hfc, hbuilt⟩ := buildFields_at hbf
      simp only [fieldBuild, fieldFound, SchemaField.name, SchemaField.type] at hbuilt
      rw [lookupField_last pre post f 0 none hi.1 hs.1] at hbuilt
      simp only [GoField.type, GoField.jsonTag, f] at hbuilt
      rw [hlen] at hfc
      cases hoe : omitEmptyTag j with
      | true =>
        -- the field's schema is `[null, x]`: the codec is `unionOne` over the codec for `x`
        rw [hoe, hx.omitWrap] at hbuilt
        obtain ⟨n3, c1, hc1, hcase⟩ := buildCodec_nullable_inv hbuilt
        obtain ⟨l, hl, hbl⟩ := ihB x hx n3 true c1 hc1
        cases hcase (nav_not_string hns hl hbl)
        exact ⟨l, by simp [nav, hfc, hoe, hl], hbl⟩
      | false =>
        rw [hoe, omitWrap_false] at hbuilt
        obtain ⟨l, hl, hbl⟩ := ihA m2 false fc hbuilt
        exact ⟨l, by simp [nav, hfc, hoe, hl], hbl⟩
    exact .of_plain (.record _ _ _) key

end Avro
