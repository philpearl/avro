import AvroModel.Encoder
/-!
A run of API calls — `Encode`/`Flush` on an `Encoder`, or `WriteHeader`/`WriteBlock` on a `FileWriter` —
is one `writeAll` of a list of chunks that does not depend on the writer, so the fault model
(`failAt`, `accept`) enters through `WState.writeAll` alone.
-/
namespace Avro

/-- fault-free writer -/
def WState.Free (w : WState) : Prop := w.failAt = 0

theorem write_free {w : WState} (h : w.Free) (d : Bytes) :
    w.write d = ({ w with calls := w.calls + 1, accepted := w.accepted ++ d, log := w.log ++ [d] }, true) := by
  unfold WState.write
  have : ¬ (w.calls + 1 = w.failAt) := by unfold WState.Free at h; omega
  simp [this]

theorem writeAll_cons (w : WState) (d : Bytes) (ds : List Bytes) :
    w.writeAll (d :: ds) = if (w.write d).2 then (w.write d).1.writeAll ds else w.write d := by
  rw [WState.writeAll]
  generalize w.write d = x
  obtain ⟨w', _ | _⟩ := x <;> rfl

theorem writeAll_append (w : WState) (a b : List Bytes) :
    w.writeAll (a ++ b) = if (w.writeAll a).2 then (w.writeAll a).1.writeAll b else w.writeAll a := by
  induction a generalizing w with
  | nil => rfl
  | cons d a ih =>
    rw [List.cons_append, writeAll_cons, writeAll_cons]
    split
    · exact ih _
    · simp [*]

theorem writeAll_accepted (w : WState) (ds : List Bytes) :
    ∃ t, (w.writeAll ds).1.accepted = w.accepted ++ t ∧ t <+: ds.flatten ∧
      ((w.writeAll ds).2 = true → t = ds.flatten) := by
  induction ds generalizing w with
  | nil => exact ⟨[], by simp [WState.writeAll], List.prefix_refl _, fun _ => rfl⟩
  | cons d ds ih =>
    simp only [WState.writeAll, WState.write, List.flatten_cons]
    by_cases hk : w.calls + 1 = w.failAt
    · simp only [hk, if_true]
      exact ⟨d.take w.accept, rfl, (List.take_prefix _ _).trans (List.prefix_append _ _), fun h => by cases h⟩
    · simp only [hk, if_false]
      obtain ⟨t, h1, h2, h3⟩ := ih { w with calls := w.calls + 1, accepted := w.accepted ++ d, log := w.log ++ [d] }
      exact ⟨d ++ t, by rw [h1, List.append_assoc], (List.prefix_append_right_inj d).mpr h2, fun h => by rw [h3 h]⟩

theorem writeAll_free {w : WState} (h : w.Free) (ds : List Bytes) :
    ∃ w', w.writeAll ds = (w', true) ∧ w'.Free ∧ w'.accepted = w.accepted ++ ds.flatten := by
  have hok : (w.writeAll ds).2 = true ∧ (w.writeAll ds).1.Free := by
    induction ds generalizing w with
    | nil => exact ⟨rfl, h⟩
    | cons d ds ih => rw [writeAll_cons, write_free h]; exact ih h
  obtain ⟨t, h1, _, h3⟩ := writeAll_accepted w ds
  exact ⟨_, Prod.ext rfl hok.1, hok.2, by rw [h1, h3 hok.1]⟩

theorem writeAll_prefix {w w0 : WState} (hacc : w.accepted = w0.accepted) (h0 : w0.Free) (ds : List Bytes) :
    (w.writeAll ds).1.accepted <+: (w0.writeAll ds).1.accepted := by
  obtain ⟨t, h1, h2, _⟩ := writeAll_accepted w ds
  obtain ⟨w', hw, _, hacc'⟩ := writeAll_free h0 ds
  rw [h1, hw, hacc', hacc]
  exact (List.prefix_append_right_inj _).mpr h2

/-- the writes an `Encode`/`Flush` call issues from state `s` -/
def stepChunks (cfg : EncCfg) (s : EncState) : EncOp → List Bytes
  | .encode r => if cfg.blockSize ≤ (s.wb ++ r).length then blockChunks cfg (s.count + 1) (s.wb ++ r) else []
  | .flush => if s.count > 0 then blockChunks cfg s.count s.wb else []

/-- the encoder's state after the call when none of its writes failed -/
def stepNext (cfg : EncCfg) (s : EncState) : EncOp → EncState
  | .encode r => if cfg.blockSize ≤ (s.wb ++ r).length then {} else { count := s.count + 1, wb := s.wb ++ r }
  | .flush => if s.count > 0 then {} else s

theorem encFlush_writes (cfg : EncCfg) (s : EncState) (w : WState) :
    (encFlush cfg s w).2 = w.writeAll (if s.count > 0 then blockChunks cfg s.count s.wb else []) ∧
    ((encFlush cfg s w).2.2 = true → (encFlush cfg s w).1 = if s.count > 0 then {} else s) := by
  unfold encFlush
  split
  · cases w.writeAll (blockChunks cfg s.count s.wb) with
    | mk w' ok => cases ok <;> simp
  · exact ⟨rfl, fun _ => rfl⟩

theorem encStep_writes (cfg : EncCfg) (s : EncState) (w : WState) (op : EncOp) :
    (encStep cfg s w op).2 = w.writeAll (stepChunks cfg s op) ∧
    ((encStep cfg s w op).2.2 = true → (encStep cfg s w op).1 = stepNext cfg s op) := by
  cases op with
  | flush => exact encFlush_writes cfg s w
  | encode r =>
    simp only [encStep, encEncode, stepChunks, stepNext]
    split
    · have := encFlush_writes cfg { count := s.count + 1, wb := s.wb ++ r } w
      simpa using this
    · exact ⟨rfl, fun _ => rfl⟩

/-- the writes a history of calls issues from state `s` when none fails: `stepChunks` along `stepNext` -/
def runChunks (cfg : EncCfg) : List EncOp → EncState → List Bytes
  | [], _ => []
  | op :: ops, s => stepChunks cfg s op ++ runChunks cfg ops (stepNext cfg s op)

theorem encRunFrom_writes (cfg : EncCfg) : ∀ (ops : List EncOp) (i : Nat) (s : EncState) (w : WState),
    (encRunFrom cfg ops i s w).2.1 = (w.writeAll (runChunks cfg ops s)).1 ∧
    ((encRunFrom cfg ops i s w).2.2.isNone = (w.writeAll (runChunks cfg ops s)).2) ∧
    ((w.writeAll (runChunks cfg ops s)).2 = true → (encRunFrom cfg ops i s w).1 = ops.foldl (stepNext cfg) s)
  | [], _, s, w => ⟨rfl, rfl, fun _ => rfl⟩
  | op :: ops, i, s, w => by
    obtain ⟨h1, h2⟩ := encStep_writes cfg s w op
    simp only [encRunFrom, runChunks, writeAll_append, List.foldl_cons]
    cases hst : encStep cfg s w op with
    | mk s' r => cases r with
      | mk w' ok =>
        rw [hst] at h1 h2
        simp only at h1 h2
        rw [← h1]
        cases ok with
        | false => simp
        | true =>
          simp only [if_true]
          rw [h2 rfl]
          exact encRunFrom_writes cfg ops (i + 1) _ w'

theorem encRun_writes (cfg : EncCfg) (w : WState) (ops : List EncOp) :
    (encRun cfg w ops).2.1 = (w.writeAll (cfg.header :: runChunks cfg ops {})).1 ∧
    ((encRun cfg w ops).2.2.isNone = (w.writeAll (cfg.header :: runChunks cfg ops {})).2) ∧
    ((w.writeAll (cfg.header :: runChunks cfg ops {})).2 = true → (encRun cfg w ops).1 = ops.foldl (stepNext cfg) {}) := by
  simp only [encRun, WState.writeAll]
  cases w.write cfg.header with
  | mk w' ok =>
    cases ok with
    | false => simp
    | true => exact encRunFrom_writes cfg ops 1 {} w'

/-- the chunks of `WriteHeader` / `WriteBlock` -/
def fwChunks (cfg : EncCfg) : FwOp → List Bytes
  | .header => [cfg.header]
  | .block n d => blockChunks cfg n d

theorem fwRunFrom_writes (cfg : EncCfg) : ∀ (ops : List FwOp) (i : Nat) (w : WState),
    (fwRunFrom cfg ops i w).1 = (w.writeAll (ops.flatMap (fwChunks cfg))).1 ∧
    (fwRunFrom cfg ops i w).2.isNone = (w.writeAll (ops.flatMap (fwChunks cfg))).2
  | [], _, w => ⟨rfl, rfl⟩
  | op :: ops, i, w => by
    have h1 : fwStep cfg w op = w.writeAll (fwChunks cfg op) := by cases op <;> rfl
    simp only [fwRunFrom, List.flatMap_cons, writeAll_append, h1]
    cases w.writeAll (fwChunks cfg op) with
    | mk w' ok =>
      cases ok with
      | false => simp
      | true => exact fwRunFrom_writes cfg ops (i + 1) w'

theorem fwRunFrom_free (cfg : EncCfg) (ops : List FwOp) (i : Nat) {w : WState} (h : w.Free) :
    (fwRunFrom cfg ops i w).2 = none ∧
    (fwRunFrom cfg ops i w).1.accepted = w.accepted ++ (ops.flatMap (fwChunks cfg)).flatten := by
  obtain ⟨h1, h2⟩ := fwRunFrom_writes cfg ops i w
  obtain ⟨w', hw, _, hacc⟩ := writeAll_free h (ops.flatMap (fwChunks cfg))
  rw [hw] at h1 h2
  exact ⟨Option.isNone_iff_eq_none.mp h2, by rw [h1, hacc]⟩

theorem specPart_encode_pos {bs : Nat} {ops : List EncOp} {pend : List Bytes} {r : Bytes}
    (h : bs ≤ (pend ++ [r]).flatten.length) :
    specPart bs (.encode r :: ops) pend = ((pend ++ [r]) :: (specPart bs ops []).1, (specPart bs ops []).2) := by
  simp only [specPart, if_pos h]

theorem specPart_encode_neg {bs : Nat} {ops : List EncOp} {pend : List Bytes} {r : Bytes}
    (h : ¬ bs ≤ (pend ++ [r]).flatten.length) :
    specPart bs (.encode r :: ops) pend = specPart bs ops (pend ++ [r]) := by
  simp only [specPart, if_neg h]

/-- the encoder's buffer `s` holds exactly the pending records `pend`: their number and their bytes -/
def EncState.Holds (s : EncState) (pend : List Bytes) : Prop := s.count = pend.length ∧ s.wb = pend.flatten

theorem runChunks_spec (cfg : EncCfg) : ∀ (ops : List EncOp) (pend : List Bytes) (s : EncState), s.Holds pend →
    (runChunks cfg ops s).flatten = ((specPart cfg.blockSize ops pend).1.map (frame cfg)).flatten ∧
    (ops.foldl (stepNext cfg) s).Holds (specPart cfg.blockSize ops pend).2
  | [], pend, s, h => ⟨rfl, h⟩
  | .flush :: ops, pend, s, h => by
    simp only [runChunks, stepChunks, stepNext, List.foldl_cons, specPart]
    by_cases hp : pend = []
    · have h0 : ¬ s.count > 0 := by simp [h.1, hp]
      subst hp
      simpa [h0] using runChunks_spec cfg ops [] s h
    · have h0 : s.count > 0 := by rw [h.1]; exact List.length_pos_iff.mpr hp
      have ih := runChunks_spec cfg ops [] {} ⟨rfl, rfl⟩
      simp only [h0, hp, if_true, if_false, List.flatten_append, List.map_cons, List.flatten_cons, ih.1]
      exact ⟨by rw [frame, h.1, h.2], ih.2⟩
  | .encode r :: ops, pend, s, h => by
    have hb : s.wb ++ r = (pend ++ [r]).flatten := by simp [h.2]
    have hc : s.count + 1 = (pend ++ [r]).length := by simp [h.1]
    simp only [runChunks, stepChunks, stepNext, List.foldl_cons, hb, hc]
    by_cases hth : cfg.blockSize ≤ (pend ++ [r]).flatten.length
    · have ih := runChunks_spec cfg ops [] {} ⟨rfl, rfl⟩
      rw [specPart_encode_pos hth, if_pos hth, if_pos hth]
      exact ⟨by rw [List.flatten_append, ih.1, List.map_cons, List.flatten_cons, frame], ih.2⟩
    · rw [specPart_encode_neg hth, if_neg hth, if_neg hth]
      exact runChunks_spec cfg ops (pend ++ [r]) _ ⟨rfl, rfl⟩

end Avro
