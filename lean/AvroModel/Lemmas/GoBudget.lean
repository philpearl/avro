import AvroModel.Lemmas.SkipExact
import AvroModel.Lemmas.SemEqns
/-!
A read budget in terms of the WRITTEN Go value: the datum `toAvro … c g` a Go value denotes is no
larger than `(Codec.sz c + 1) * (GoVal.sz g + 1)` (a record codec may deliver the same Go field into
several schema fields, hence a product), so `goBudget c g` steps suffice to read back what was
written for `g`.
-/
namespace Avro

variable (env : Env)

structure TSzAt (nullp : Codec → GoVal → Bool) (n : Nat) : Prop where
  toAvro : ∀ c g v, toAvro env nullp n c g = some v → v.sz ≤ (c.sz + 1) * (g.sz + 1)
  toAvroItems : ∀ c gs vs, toAvroItems env nullp n c gs = some vs →
    Value.szList vs ≤ (c.sz + 1) * GoVal.szList gs + gs.length
  toAvroFields : ∀ cs ts fs vs, toAvroFields env nullp n cs ts fs = some vs →
    Value.szList vs ≤ Codec.szList cs * (GoVal.szList fs + 1) + cs.length

/- The products are multiplied out (`Nat.add_mul`, …) so that `omega` sees them as atoms. A leaf
codec yields a datum of size at most 1. -/
theorem tSzAt (nullp : Codec → GoVal → Bool) : ∀ n, TSzAt env nullp n := by
  intro n
  induction n with
  | zero => constructor <;> intros <;> rename_i h <;> cases h
  | succ n ih =>
    constructor
    · intro c g v h
      cases c
      case array item o =>
        cases g <;> try cases h
        rw [toAvro_array] at h
        obtain ⟨vs, hvs, rfl⟩ := Option.map_eq_some_iff.mp h
        have := ih.toAvroItems item _ vs hvs
        have hl := GoVal.length_le_szList ‹_›
        simp only [Value.sz, Codec.sz, GoVal.sz]
        simp only [Nat.add_mul, Nat.mul_add, Nat.one_mul, Nat.mul_one] at this ⊢; omega
      case map val o =>
        cases g <;> try cases h
        rw [toAvro_map] at h
        obtain ⟨vs, hvs, rfl⟩ := Option.map_eq_some_iff.mp h
        have := ih.toAvroItems val _ vs hvs
        have hl := GoVal.length_le_szList ‹_›
        simp only [Value.sz, Codec.sz, GoVal.sz]
        simp only [Nat.add_mul, Nat.mul_add, Nat.one_mul, Nat.mul_one] at this ⊢; omega
      case pointer c' =>
        cases g <;> try cases h
        rename_i t
        cases t with
        | none =>
          refine Nat.le_trans ?_ (Nat.mul_pos (Nat.succ_pos _) (Nat.succ_pos _))
          rw [toAvro_ptr_none] at h
          split at h <;> cases h <;> exact Nat.le_of_ble_eq_true rfl
        | some x =>
          have := ih.toAvro c' x v h
          simp only [Codec.sz, GoVal.sz]
          simp only [Nat.add_mul, Nat.mul_add, Nat.one_mul, Nat.mul_one] at this ⊢; omega
      case record z cs ts =>
        cases g <;> try cases h
        rw [toAvro_record] at h
        obtain ⟨vs, hvs, rfl⟩ := Option.map_eq_some_iff.mp h
        have := ih.toAvroFields cs ts _ vs hvs
        have hl := Codec.length_le_szList cs
        simp only [Value.sz, Codec.sz, GoVal.sz]
        simp only [Nat.add_mul, Nat.mul_add, Nat.one_mul, Nat.mul_one] at this ⊢; omega
      case unionOne c' nn =>
        rw [toAvro_unionOne] at h
        split at h
        · cases h
          exact Nat.le_trans (Nat.le_of_ble_eq_true rfl) (Nat.mul_pos (Nat.succ_pos _) (Nat.succ_pos _))
        · obtain ⟨v', hv', rfl⟩ := Option.map_eq_some_iff.mp h
          have := ih.toAvro c' g v' hv'
          simp only [Value.sz, Codec.sz]
          simp only [Nat.add_mul, Nat.mul_add, Nat.one_mul, Nat.mul_one] at this ⊢; omega
      all_goals refine Nat.le_trans ?_ (Nat.mul_pos (Nat.succ_pos _) (Nat.succ_pos _))
      case unionNullString o nn =>
        cases g <;> try cases h
        rename_i bs
        cases o <;> cases bs <;> cases h <;> exact Nat.le_of_ble_eq_true rfl
      case nullw k =>
        cases g <;> try cases h
        rename_i inner
        cases k <;> cases inner <;> cases h <;> exact Nat.le_of_ble_eq_true rfl
      all_goals (cases g <;> cases h <;> exact Nat.le_of_ble_eq_true rfl)
    · intro c gs vs h
      cases gs with
      | nil => cases h; exact Nat.zero_le _
      | cons g gs =>
        rw [toAvroItems_cons] at h
        split at h
        · rename_i v vs' hv hvs
          cases h
          have h1 := ih.toAvro c g v hv
          have h2 := ih.toAvroItems c gs vs' hvs
          simp only [Value.szList, GoVal.szList, List.length_cons]
          simp only [Nat.add_mul, Nat.mul_add, Nat.one_mul, Nat.mul_one] at h1 h2 ⊢; omega
        · cases h
    · intro cs ts fs vs h
      rcases cs with _ | ⟨c, cs⟩
      · cases h; exact Nat.zero_le _
      · rcases ts with _ | ⟨_ | i, ts⟩ <;> try cases h
        rw [toAvroFields_cons] at h
        split at h
        · cases h
        · rename_i g hg
          split at h
          · rename_i v vs' hv hvs
            cases h
            have h1 := ih.toAvro c g v hv
            have h2 := ih.toAvroFields cs ts fs vs' hvs
            have h3 := GoVal.sz_le_of_getElem? hg
            have h4 : (c.sz + 1) * (g.sz + 1) ≤ (c.sz + 1) * (GoVal.szList fs + 1) :=
              Nat.mul_le_mul_left _ (by omega)
            simp only [Value.szList, Codec.szList, List.length_cons]
            simp only [Nat.add_mul, Nat.mul_add, Nat.one_mul, Nat.mul_one] at h1 h2 h4 ⊢; omega
          · cases h

theorem toAvro_sz (nullp : Codec → GoVal → Bool) {m : Nat} {c : Codec} {g : GoVal} {v : Value}
    (h : toAvro env nullp m c g = some v) : v.sz ≤ (c.sz + 1) * (g.sz + 1) :=
  (tSzAt env nullp m).toAvro c g v h

/-- `readBudget c v` with `Value.sz v` replaced by its bound `toAvro_sz` -/
def goBudget (c : Codec) (g : GoVal) : Nat := c.sz + 2 * ((c.sz + 1) * (g.sz + 1)) + 2

theorem readBudget_le_goBudget (nullp : Codec → GoVal → Bool) {m : Nat} {c : Codec} {g : GoVal} {v : Value}
    (h : toAvro env nullp m c g = some v) : readBudget c v ≤ goBudget c g := by
  have := toAvro_sz env nullp h
  unfold readBudget goBudget; omega

end Avro
