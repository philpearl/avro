import AvroModel.Wire
import AvroModel.Codec
/-!
`CodecFor c s`: codec tree `c` is one the library may build for Avro schema `s` (typed against some
Go type, or untyped for skipping). It is the hypothesis under which the codec theorems (C03, C04,
C02/C13) are stated; `buildOkAt` (`Lemmas/BuildOk.lean`) shows that successful construction yields it.
-/
namespace Avro

mutual
inductive CodecFor : Codec → ASchema → Prop where
  | null : CodecFor .null .null
  | bool {o} : CodecFor (.bool o) .boolean
  | intI {w o} : CodecFor (.int w o) .int
  | intL {w o} : CodecFor (.int w o) .long
  | float {o} : CodecFor (.float o) .float
  | double {o} : CodecFor (.double o) .double
  | f32double {o} : CodecFor (.f32double o) .double
  | bytes {o} : CodecFor (.bytes o) .bytes
  | string {o} : CodecFor (.string o) .string
  | fixed {n : Nat} : CodecFor (.fixed n) (.fixed n)
  | array {item s o} : CodecFor item s → CodecFor (.array item o) (.array s)
  | map {val s o} : CodecFor val s → CodecFor (.map val o) (.map s)
  | pointer {c s} : CodecFor c s → CodecFor (.pointer c) s
  | record {z cs ts ns ss} : CodecsFor cs ss → ts.length = cs.length → CodecFor (.record z cs ts) (.record ns ss)
  | union {cs ss} : CodecsFor cs ss → CodecFor (.union cs) (.union ss)
  | unionOne0 {c s} : CodecFor c s → CodecFor (.unionOne c 0) (.union [s, .null])
  | unionOne1 {c s} : CodecFor c s → CodecFor (.unionOne c 1) (.union [.null, s])
  | unionNullString0 {o} : CodecFor (.unionNullString o 0) (.union [.string, .null])
  | unionNullString1 {o} : CodecFor (.unionNullString o 1) (.union [.null, .string])
  | timeString : CodecFor .timeString .string
  | timeLong {m} : CodecFor (.timeLong m) .long
  | date : CodecFor .date .int
  | nullInt : CodecFor (.nullw .int) .long
  | nullIntI : CodecFor (.nullw .int) .int
  | nullBool : CodecFor (.nullw .bool) .boolean
  | nullDouble : CodecFor (.nullw .double) .double
  | nullFloat : CodecFor (.nullw .float) .float
  | nullString : CodecFor (.nullw .string) .string
  | nullTime : CodecFor (.nullw .time) .string
inductive CodecsFor : List Codec → List ASchema → Prop where
  | nil : CodecsFor [] []
  | cons {c s cs ss} : CodecFor c s → CodecsFor cs ss → CodecsFor (c :: cs) (s :: ss)
end

end Avro
