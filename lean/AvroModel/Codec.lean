import AvroModel.Bytes
/-!
Model of the library's codec tree and of every codec's Read / Skip / Write / Omit / New
(int.go, float.go, bool.go, bytes.go, string.go, fixed.go, null.go, array.go, map.go, pointer.go,
record.go, union.go, time/time.go, null/null.go), over abstract Go values instead of raw memory.
The memory-level side (store widths, pointee shapes, GC typing) is `Typing.lean`.

External code is a parameter (`Env`): hardware float conversion, the timestamp formatter/parser
(modelled and verified separately in `Time.lean`), user-registered custom codecs.
-/
namespace Avro

/-- Outcome of a modelled entry point. `panic` is a Go run-time panic (slice bounds, nil
dereference, explicit panic); `stuck` is a store through a pointer of the wrong shape (memory
corruption in the real code); `fuel` means the step budget was exhausted. -/
inductive Outcome (α : Type) where
  | ok (a : α)
  | err
  | panic
  | stuck
  | fuel
  deriving Repr

structure TimeVal where
  unix : Int      -- seconds since 1970-01-01T00:00:00Z
  nsec : Nat
  off : Int       -- zone offset in seconds east of UTC
  deriving Repr, DecidableEq, Inhabited

/-- `time.Time{}.IsZero()`: year 1, January 1, 00:00:00 UTC -/
def TimeVal.isZero (t : TimeVal) : Bool := t.unix == -62135596800 && t.nsec == 0
def TimeVal.zero : TimeVal := { unix := -62135596800, nsec := 0, off := 0 }

/-- Abstract Go values. Maps carry their entries in iteration order plus a nil flag. -/
inductive GoVal where
  | unit                                   -- no Go value (target of a `null` schema)
  | bool (b : Bool)
  | int (v : Int)
  | f32 (bits : Nat)
  | f64 (bits : Nat)
  | str (bs : Bytes)
  | bytes (bs : Bytes)
  | fixed (bs : Bytes)
  | slice (items : List GoVal)
  | map (isNil : Bool) (keys : List Bytes) (vals : List GoVal)
  | ptr (target : Option GoVal)
  | struct (fields : List GoVal)
  | time (t : TimeVal)
  | nullw (valid : Bool) (inner : GoVal)   -- null.Int / Bool / Float / String / Time
  | opaque (id : Nat) (repr : Bytes)       -- value of a user-registered custom type
  deriving Repr, Inhabited

inductive NullKind where
  | int | bool | double | float | string | time
  deriving Repr, DecidableEq

/-- One constructor per Go codec type. `omit` flags are the `omitEmpty` fields. -/
inductive Codec where
  | null
  | bool (oe : Bool)
  | int (w : Nat) (oe : Bool)
  | float (oe : Bool)
  | double (oe : Bool)
  | f32double (oe : Bool)
  | bytes (oe : Bool)
  | string (oe : Bool)
  | fixed (n : Int)
  | array (item : Codec) (oe : Bool)
  | map (val : Codec) (oe : Bool)
  | pointer (c : Codec)
  /-- `zero`: the zero value of the Go struct; each field: codec and the index of the Go field it
  decodes into (`none` = not in the struct: skipped on read). -/
  | record (zero : List GoVal) (codecs : List Codec) (targets : List (Option Nat))
  | union (cs : List Codec)
  | unionOne (c : Codec) (nonNull : Nat)
  | unionNullString (oe : Bool) (nonNull : Nat)
  | timeString
  | timeLong (mult : Int)
  | date
  | nullw (k : NullKind)
  | custom (id : Nat)
  deriving Repr, Inhabited

/-- A user-registered codec, as a black box over bytes. -/
structure CustomCodec where
  read : Bytes → Option (GoVal × Bytes)
  skip : Bytes → Option Bytes
  write : GoVal → Bytes
  omits : GoVal → Bool
  zero : GoVal

structure Env where
  widen : Nat → Nat                      -- float32 bits ↦ float64 bits (`float64(f)`)
  narrow : Nat → Nat                     -- float64 bits ↦ float32 bits (`float32(d)`)
  fmtTime : TimeVal → Bytes              -- `t.Format(time.RFC3339Nano)`
  parseTime : Bytes → Option TimeVal     -- `parseTime` composed with `time.Date`
  ofNanos : Int → TimeVal                -- `time.Unix(0, n).UTC()`
  ofDays : Int → TimeVal                 -- `time.Date(1970, 1, 1+d, 0, 0, 0, 0, time.UTC)`
  custom : Nat → CustomCodec

def wrap64 (i : Int) : Int := (i + 2 ^ 63) % 2 ^ 64 - 2 ^ 63

/-- `ReadBuf.Next` (buffer.go:77) on the unread part of the buffer. The guard comes first; the
slice expression `d.buf[d.i-l : d.i]` panics when its bounds are not ordered and in range. -/
def next (l : Int) (bs : Bytes) : Outcome (Bytes × Bytes) :=
  if l < 0 ∨ l > bs.length then .err
  else if 0 ≤ l ∧ l.toNat ≤ bs.length then .ok (bs.take l.toNat, bs.drop l.toNat)
  else .panic

def isZeroF32 (b : Nat) : Bool := b == 0 || b == 2 ^ 31
def isZeroF64 (b : Nat) : Bool := b == 0 || b == 2 ^ 63

mutual
/-- what `New` allocates (zeroed), i.e. the zero value of the codec's Go type -/
def Codec.zero (env : Env) : Codec → GoVal
  | .null => .unit
  | .bool _ => .bool false
  | .int _ _ => .int 0
  | .float _ => .f32 0
  | .double _ => .f64 0
  | .f32double _ => .f32 0
  | .bytes _ => .bytes []
  | .string _ => .str []
  | .fixed n => .fixed (List.replicate n.toNat 0)
  | .array _ _ => .slice []
  | .map _ _ => .map true [] []
  | .pointer _ => .ptr none
  | .record z _ _ => .struct z
  | .union cs => zeroUnion env cs
  | .unionOne c _ => Codec.zero env c
  | .unionNullString _ _ => .str []
  | .timeString | .timeLong _ | .date => .time TimeVal.zero
  | .nullw k =>
    .nullw false (match k with
      | .int => .int 0 | .bool => .bool false | .double => .f64 0 | .float => .f64 0
      | .string => .str [] | .time => .time TimeVal.zero)
  | .custom id => (env.custom id).zero

/-- all branches of a general union decode into the same Go type: the first non-null branch's zero -/
def zeroUnion (env : Env) : List Codec → GoVal
  | [] => .unit
  | .null :: cs => zeroUnion env cs
  | c :: _ => Codec.zero env c
end

/-- `mapassign`: a later entry for the same key replaces the earlier one -/
def mapAssign (k : Bytes) (v : GoVal) : List Bytes → List GoVal → List Bytes × List GoVal
  | [], _ => ([k], [v])
  | k' :: ks, v' :: vs =>
    if k' = k then (k' :: ks, v :: vs)
    else let (ks', vs') := mapAssign k v ks vs; (k' :: ks', v' :: vs')
  | k' :: ks, [] => (k' :: ks, [])   -- unreachable for well-formed maps

def listSet {α} : List α → Nat → α → List α
  | [], _, _ => []
  | _ :: xs, 0, a => a :: xs
  | x :: xs, n + 1, a => x :: listSet xs n a

/-- `skip(r, l)` (discard.go) -/
def skipN (l : Int) (bs : Bytes) : Outcome Bytes :=
  match next l bs with
  | .ok (_, r) => .ok r
  | .err => .err | .panic => .panic | .stuck => .stuck | .fuel => .fuel

/-- skip over a varint -/
def skipVar (bs : Bytes) : Outcome Bytes :=
  match readVarint bs with
  | .ok (_, r) => .ok r
  | .error _ => .err

/-- skip over a length-prefixed byte string (`StringCodec.Skip` / `BytesCodec.Skip`) -/
def skipLen (bs : Bytes) : Outcome Bytes :=
  match readVarint bs with
  | .ok (l, r) => skipN l r
  | .error _ => .err

@[inline] def Outcome.bind {α β : Type} (o : Outcome α) (f : α → Outcome β) : Outcome β :=
  match o with
  | .ok a => f a
  | .err => .err
  | .panic => .panic
  | .stuck => .stuck
  | .fuel => .fuel

instance : Monad Outcome where
  pure := .ok
  bind := Outcome.bind

/-- varint as the codecs use it: any error of `ReadBuf.Varint` is an error of the codec -/
def rdVarint (bs : Bytes) : Outcome (Int × Bytes) :=
  match readVarint bs with
  | .ok p => .ok p
  | .error _ => .err

/-- `IntCodec[T].Read` -/
def rdInt (w : Nat) (bs : Bytes) : Outcome (Int × Bytes) :=
  match readInt w bs with
  | .ok p => .ok p
  | .error _ => .err

/-- `ReadBuf.ReadByte` -/
def rdByte : Bytes → Outcome (UInt8 × Bytes)
  | [] => .err
  | b :: r => .ok (b, r)

/-- the block header shared by array.go / map.go Read: returns the item count of the block.
`count = -count` wraps for MinInt64, leaving it negative: no iterations. -/
def blockCount (count : Int) (r : Bytes) : Outcome (Nat × Bytes) :=
  if count < 0 then do
    let (_, r') ← rdVarint r
    let c := wrap64 (-count)
    pure ((if c < 0 then 0 else c.toNat), r')
  else .ok (count.toNat, r)

/-- the block header of `arrayCodec.Read` (array.go:20-42): like `blockCount`, and a count that is
negative after negation (MinInt64) or that would overflow the slice length is an error -/
def arrayBlockCount (count : Int) (r : Bytes) (len : Nat) : Outcome (Nat × Bytes) :=
  (if count < 0 then (rdVarint r).bind fun p => .ok (wrap64 (-count), p.2) else .ok (count, r)).bind fun p =>
    if p.1 < 0 ∨ p.1 > 2 ^ 63 - 1 - (len : Int) then .err else .ok (p.1.toNat, p.2)

/-- the codec embedded in a `null.*` wrapper codec -/
def nullInner : NullKind → Codec
  | .int => .int 64 false | .bool => .bool false | .double => .double false
  | .float => .float false | .string => .string false | .time => .timeString

section
variable (env : Env)

mutual
/-- `Codec.Read(r, p)`: `bs` is the unread input, `dst` the value currently behind `p`. -/
def read : Nat → Codec → Bytes → GoVal → Outcome (GoVal × Bytes)
  | 0, _, _, _ => .fuel
  | fuel + 1, c, bs, dst =>
    match c with
    | .null => .ok (dst, bs)
    | .bool _ => do
      let (b, r) ← rdByte bs
      pure (.bool (b != 0), r)
    | .int w _ => do
      let (v, r) ← rdInt w bs
      pure (.int v, r)
    | .float _ => do
      let (b, r) ← next 4 bs
      pure (.f32 (getLE b), r)
    | .double _ => do
      let (b, r) ← next 8 bs
      pure (.f64 (getLE b), r)
    | .f32double _ => do
      let (b, r) ← next 8 bs
      pure (.f32 (env.narrow (getLE b)), r)
    | .bytes _ => do
      let (l, r) ← rdVarint bs
      if l = 0 then pure (dst, r) else do
        let (b, r') ← next l r
        pure (.bytes b, r')
    | .string _ => do
      let (l, r) ← rdVarint bs
      if l < 0 then .err else do
        let (b, r') ← next l r
        pure (.str b, r')
    | .fixed n => do
      let (b, r) ← next n bs
      pure (.fixed b, r)
    | .array item _ =>
      match dst with
      | .slice items => do
        let (items', r) ← readArrayBlocks fuel item bs items
        pure (.slice items', r)
      | _ => .stuck
    | .map val _ =>
      match dst with
      | .map _ ks vs => do
        let ((ks', vs'), r) ← readMapBlocks fuel val bs ks vs
        pure (.map false ks' vs', r)
      | _ => .stuck
    | .pointer c' =>
      match dst with
      | .ptr none => do
        let (v, r) ← read fuel c' bs (Codec.zero env c')
        pure (.ptr (some v), r)
      | .ptr (some x) => do
        let (v, r) ← read fuel c' bs x
        pure (.ptr (some v), r)
      | _ => .stuck
    | .record _ codecs targets =>
      match dst with
      | .struct fs => do
        let (fs', r) ← readFields fuel codecs targets bs fs
        pure (.struct fs', r)
      | _ => .stuck
    | .union cs => do
      let (idx, r) ← rdVarint bs
      if idx < 0 ∨ idx ≥ cs.length then .err else
        match cs[idx.toNat]? with
        | some c' => read fuel c' r dst
        | none => .panic
    | .unionOne c' nonNull => do
      let (b, r) ← rdByte bs
      if b.toNat / 2 ≥ 2 then .err
      else if b.toNat / 2 = nonNull then read fuel c' r dst
      else pure (dst, r)
    | .unionNullString _ nonNull => do
      let (b, r) ← rdByte bs
      if b.toNat / 2 ≥ 2 then .err
      else if b.toNat / 2 = nonNull then read fuel (.string false) r dst
      else pure (dst, r)
    | .timeString => do
      let (l, r) ← rdVarint bs
      if l = 0 then pure (dst, r) else do
        let (b, r') ← next l r
        match env.parseTime b with
        | some t => pure (.time t, r')
        | none => .err
    | .timeLong mult => do
      let (v, r) ← rdInt 64 bs
      pure (.time (env.ofNanos (wrap64 (v * mult))), r)
    | .date => do
      let (v, r) ← rdInt 32 bs
      pure (.time (env.ofDays v), r)
    | .nullw k => do
      -- `Valid = true` is stored, then the embedded codec reads the payload field
      let dstInner : GoVal := match dst with | .nullw _ x => x | x => x
      let (v, r) ← read fuel (nullInner k) bs dstInner
      let v' := match k, v with
        | .float, .f32 b => .f64 (env.widen b)
        | _, x => x
      pure (.nullw true v', r)
    | .custom id =>
      match (env.custom id).read bs with
      | some (v, r) => .ok (v, r)
      | none => .err

/-- `recordCodec.Read`: fields in schema order; a field with no target is skipped -/
def readFields : Nat → List Codec → List (Option Nat) → Bytes → List GoVal → Outcome (List GoVal × Bytes)
  | 0, _, _, _, _ => .fuel
  | _ + 1, [], _, bs, fs => .ok (fs, bs)
  | _ + 1, _ :: _, [], _, _ => .stuck
  | fuel + 1, c :: cs, none :: ts, bs, fs => do
    let r ← skip fuel c bs
    readFields fuel cs ts r fs
  | fuel + 1, c :: cs, some i :: ts, bs, fs =>
    match fs[i]? with
    | none => .stuck
    | some cur => do
      let (v, r) ← read fuel c bs cur
      readFields fuel cs ts r (listSet fs i v)

/-- the block loop of `arrayCodec.Read` (array.go:19); `acc` is the destination slice so far -/
def readArrayBlocks : Nat → Codec → Bytes → List GoVal → Outcome (List GoVal × Bytes)
  | 0, _, _, _ => .fuel
  | fuel + 1, item, bs, acc => do
    let (count, r) ← rdVarint bs
    if count = 0 then pure (acc, r) else do
      let (n, r') ← arrayBlockCount count r acc.length
      let (acc', r'') ← readItems fuel item n r' acc
      readArrayBlocks fuel item r'' acc'

def readItems : Nat → Codec → Nat → Bytes → List GoVal → Outcome (List GoVal × Bytes)
  | 0, _, _, _, _ => .fuel
  | _ + 1, _, 0, bs, acc => .ok (acc, bs)
  | fuel + 1, item, n + 1, bs, acc => do
    let (v, r) ← read fuel item bs (Codec.zero env item)
    readItems fuel item n r (acc ++ [v])

/-- the block loop of `MapCodec.Read` (map.go:24) -/
def readMapBlocks : Nat → Codec → Bytes → List Bytes → List GoVal → Outcome ((List Bytes × List GoVal) × Bytes)
  | 0, _, _, _, _ => .fuel
  | fuel + 1, val, bs, ks, vs => do
    let (count, r) ← rdVarint bs
    if count = 0 then pure ((ks, vs), r) else do
      let (n, r') ← blockCount count r
      let ((ks', vs'), r'') ← readMapItems fuel val n r' ks vs
      readMapBlocks fuel val r'' ks' vs'

def readMapItems : Nat → Codec → Nat → Bytes → List Bytes → List GoVal → Outcome ((List Bytes × List GoVal) × Bytes)
  | 0, _, _, _, _, _ => .fuel
  | _ + 1, _, 0, bs, ks, vs => .ok ((ks, vs), bs)
  | fuel + 1, val, n + 1, bs, ks, vs => do
    -- key: StringCodec.Read
    let (l, r) ← rdVarint bs
    if l < 0 then .err else do
      let (k, r') ← next l r
      let (v, r'') ← read fuel val r' (Codec.zero env val)
      readMapItems fuel val n r'' (mapAssign k v ks vs).1 (mapAssign k v ks vs).2

/-- `Codec.Skip(r)` -/
def skip : Nat → Codec → Bytes → Outcome Bytes
  | 0, _, _ => .fuel
  | fuel + 1, c, bs =>
    match c with
    | .null => .ok bs
    | .bool _ => skipN 1 bs
    | .int _ _ => skipVar bs
    | .float _ => skipN 4 bs
    | .double _ | .f32double _ => skipN 8 bs
    | .bytes _ | .string _ => skipLen bs
    | .fixed n => skipN n bs
    | .array item _ => skipBlocks fuel false item bs
    | .map val _ => skipBlocks fuel true val bs
    | .pointer c' => skip fuel c' bs
    | .record _ codecs _ => skipFields fuel codecs bs
    | .union cs => do
      let (idx, r) ← rdVarint bs
      if idx < 0 ∨ idx ≥ cs.length then .err else
        match cs[idx.toNat]? with
        | some c' => skip fuel c' r
        | none => .panic
    | .unionOne c' nonNull => do
      let (b, r) ← rdByte bs
      if b.toNat / 2 ≥ 2 then .err
      else if b.toNat / 2 = nonNull then skip fuel c' r
      else pure r
    | .unionNullString _ nonNull => do
      let (b, r) ← rdByte bs
      if b.toNat / 2 ≥ 2 then .err
      else if b.toNat / 2 = nonNull then skipLen r
      else pure r
    | .timeString => skipLen bs
    | .timeLong _ | .date => skipVar bs
    | .nullw k =>
      match k with
      | .int => skipVar bs
      | .bool => skipN 1 bs
      | .double => skipN 8 bs
      | .float => skipN 4 bs
      | .string | .time => skipLen bs
    | .custom id =>
      match (env.custom id).skip bs with
      | some r => .ok r
      | none => .err

def skipFields : Nat → List Codec → Bytes → Outcome Bytes
  | 0, _, _ => .fuel
  | _ + 1, [], bs => .ok bs
  | fuel + 1, c :: cs, bs => do
    let r ← skip fuel c bs
    skipFields fuel cs r

/-- block loop of `arrayCodec.Skip` / `MapCodec.Skip`: a negative count is followed by the block's
byte size, which is skipped in one step -/
def skipBlocks : Nat → Bool → Codec → Bytes → Outcome Bytes
  | 0, _, _, _ => .fuel
  | fuel + 1, keyed, item, bs => do
    let (count, r) ← rdVarint bs
    if count = 0 then pure r
    else if count < 0 then do
      let (size, r') ← rdVarint r
      let r'' ← skipN size r'
      skipBlocks fuel keyed item r''
    else do
      let r' ← skipItems fuel keyed item count.toNat r
      skipBlocks fuel keyed item r'

def skipItems : Nat → Bool → Codec → Nat → Bytes → Outcome Bytes
  | 0, _, _, _, _ => .fuel
  | _ + 1, _, _, 0, bs => .ok bs
  | fuel + 1, keyed, item, n + 1, bs => do
    let r ← if keyed then skipLen bs else pure bs
    let r' ← skip fuel item r
    skipItems fuel keyed item n r'
end

/-! ### Omit / Write (structural in the codec) -/

/-- `Codec.Omit(p)` (`omit` is a Lean keyword, hence `omits`) -/
def omits : Codec → GoVal → Bool
  | .null, _ => true
  | .bool o, .bool b => o && !b
  | .int _ o, .int v => o && v == 0
  | .float o, .f32 b => o && isZeroF32 b
  | .double o, .f64 b => o && isZeroF64 b
  | .f32double o, .f32 b => o && isZeroF32 b
  | .bytes o, .bytes bs => o && bs.isEmpty
  | .string o, .str bs => o && bs.isEmpty
  | .array _ o, .slice items => o && items.isEmpty
  | .map _ o, .map _ ks _ => o && ks.isEmpty
  | .pointer _, .ptr none => true
  | .pointer (.pointer c), .ptr (some x) => omits (.pointer c) x
  | .timeString, .time t => t.isZero
  | .timeLong _, .time t => t.isZero
  | .date, .time t => t.isZero
  | .nullw _, .nullw valid _ => !valid
  | .custom id, v => (env.custom id).omits v
  | _, _ => false

def encLen (bs : Bytes) : Bytes := writeVarint bs.length ++ bs

/-- the codec behind any number of pointer indirections (`PointerCodec.Write` looks through them
when the outer pointer is nil) -/
def Codec.stripPtr : Codec → Codec
  | .pointer c => Codec.stripPtr c
  | c => c

mutual
/-- `Codec.Write(w, p)`; `none` = the Go code panics or reads through a pointer of the wrong shape
(or the step budget ran out). -/
def write : Nat → Codec → GoVal → Option Bytes
  | 0, _, _ => none
  | fuel + 1, c, g =>
    match c, g with
    | .null, _ => some []
    | .bool _, .bool b => some (writeBool b)
    | .int _ _, .int v => some (writeVarint v)
    | .float _, .f32 b => some (putLE 4 b)
    | .double _, .f64 b => some (putLE 8 b)
    | .f32double _, .f32 b => some (putLE 8 (env.widen b))
    | .bytes _, .bytes bs => some (encLen bs)
    | .string _, .str bs => some (encLen bs)
    | .fixed _, .fixed bs => some bs
    | .array item _, .slice items =>
      if items.isEmpty then some (writeVarint 0) else
      match writeItems fuel item items with
      | some body => some (writeVarint items.length ++ body ++ writeVarint 0)
      | none => none
    | .map val _, .map _ ks vs =>
      if ks.isEmpty then some (writeVarint 0) else
      match writeEntries fuel val ks vs with
      | some body => some (writeVarint ks.length ++ body ++ writeVarint 0)
      | none => none
    | .pointer c', .ptr none =>
      -- nil outside a union: slices and maps are written as empty, anything else writes nothing
      match Codec.stripPtr c' with
      | .array _ _ | .map _ _ => some (writeVarint 0)
      | _ => some []
    | .pointer c', .ptr (some x) => write fuel c' x
    | .record _ codecs targets, .struct fs => writeFields fuel codecs targets fs
    | .union _, _ => none      -- `unionCodec.Write` panics by design
    | .unionOne c' nonNull, v =>
      if omits env c' v then some (writeVarint (1 - (nonNull : Int)))
      else match write fuel c' v with
        | some b => some (writeVarint nonNull ++ b)
        | none => none
    | .unionNullString o nonNull, .str bs =>
      if o && bs.isEmpty then some (writeVarint (1 - (nonNull : Int)))
      else some (writeVarint nonNull ++ encLen bs)
    | .timeString, .time t => some (encLen (env.fmtTime t))
    | .timeLong mult, .time t =>
      let nanos : Int := t.unix * 1000000000 + t.nsec
      let l : Int := if mult = 1 then wrap64 nanos
        else if mult = 1000000 then Int.fdiv nanos 1000000
        else Int.fdiv nanos 1000
      some (writeVarint l)
    | .date, .time t => some (writeVarint (Int.fdiv t.unix 86400))
    | .nullw k, .nullw _ inner =>
      match k, inner with
      | .int, .int v => some (writeVarint v)
      | .bool, .bool b => some (writeBool b)
      | .double, .f64 b => some (putLE 8 b)
      | .float, .f64 b => some (putLE 4 (env.narrow b))
      | .string, .str bs => some (encLen bs)
      | .time, .time t => some (encLen (env.fmtTime t))
      | _, _ => none
    | .custom id, v => some ((env.custom id).write v)
    | _, _ => none

def writeItems : Nat → Codec → List GoVal → Option Bytes
  | 0, _, _ => none
  | _ + 1, _, [] => some []
  | fuel + 1, c, v :: vs =>
    match write fuel c v, writeItems fuel c vs with
    | some a, some b => some (a ++ b)
    | _, _ => none

def writeEntries : Nat → Codec → List Bytes → List GoVal → Option Bytes
  | 0, _, _, _ => none
  | _ + 1, _, [], [] => some []
  | fuel + 1, c, k :: ks, v :: vs =>
    match write fuel c v, writeEntries fuel c ks vs with
    | some a, some b => some (encLen k ++ a ++ b)
    | _, _ => none
  | _ + 1, _, _, _ => none

/-- `recordCodec.Write`: a field without a target would be read from `p + MaxUint64` -/
def writeFields : Nat → List Codec → List (Option Nat) → List GoVal → Option Bytes
  | 0, _, _, _ => none
  | _ + 1, [], _, _ => some []
  | fuel + 1, c :: cs, some i :: ts, fs =>
    match fs[i]? with
    | none => none
    | some v =>
      match write fuel c v, writeFields fuel cs ts fs with
      | some a, some b => some (a ++ b)
      | _, _ => none
  | _ + 1, _ :: _, _, _ => none
end

end

end Avro
