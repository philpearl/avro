/-!
# The size bound behind the repair of D34

`snappyCodec.decompress` (file.go) rejects a block whose declared decoded length exceeds 22 times the block's size,
before `snappy.Decode` allocates that length. The container reader must still accept every valid block (C03, C07), so
the bound has to hold for every valid snappy block. This file states the element sizes of the snappy block format
(format_description.txt of the snappy project, section 2) and proves the bound for every sequence of elements.

A snappy block is a uvarint (the decoded length, at least one byte) followed by elements:

* literal: a tag byte, 0 to 4 further length bytes, then `n ≥ 1` bytes that are copied to the output — `n` output bytes
  for at least `n + 1` input bytes;
* copy with 1-byte offset: 2 input bytes, 4 to 11 output bytes;
* copy with 2-byte offset: 3 input bytes, 1 to 64 output bytes;
* copy with 4-byte offset: 5 input bytes, 1 to 64 output bytes.

Trusted, not verified here: that this is the snappy format (it is modelled from the format description, not derived
from the `github.com/golang/snappy` sources). The correspondence streams exercise the bound from the other side: the
data snappy compresses best (identical records, ratio above 21 : 1) is written and read back by the real library.
-/
namespace Avro.Snappy

inductive Elem where
  | literal (extraLenBytes n : Nat)   -- n data bytes, 0..4 extra length bytes
  | copy1 (len : Nat)                 -- 4 ≤ len ≤ 11
  | copy2 (len : Nat)                 -- 1 ≤ len ≤ 64
  | copy4 (len : Nat)                 -- 1 ≤ len ≤ 64
  deriving Repr

/-- an element as the format allows it -/
def Elem.Valid : Elem → Prop
  | .literal e n => e ≤ 4 ∧ 1 ≤ n
  | .copy1 l => 4 ≤ l ∧ l ≤ 11
  | .copy2 l => 1 ≤ l ∧ l ≤ 64
  | .copy4 l => 1 ≤ l ∧ l ≤ 64

/-- bytes the element occupies in the block -/
def Elem.encoded : Elem → Nat
  | .literal e n => 1 + e + n
  | .copy1 _ => 2
  | .copy2 _ => 3
  | .copy4 _ => 5

/-- bytes the element appends to the output -/
def Elem.produced : Elem → Nat
  | .literal _ n => n
  | .copy1 l => l
  | .copy2 l => l
  | .copy4 l => l

def encodedLen (es : List Elem) : Nat := (es.map Elem.encoded).sum
def producedLen (es : List Elem) : Nat := (es.map Elem.produced).sum

theorem elem_bound (e : Elem) (h : e.Valid) : 3 * e.produced ≤ 64 * e.encoded := by
  cases e <;> simp only [Elem.Valid, Elem.produced, Elem.encoded] at * <;> omega

/-- no sequence of valid elements produces more than 64 output bytes per 3 input bytes -/
theorem elems_bound : ∀ (es : List Elem), (∀ e ∈ es, e.Valid) → 3 * producedLen es ≤ 64 * encodedLen es
  | [], _ => by simp [producedLen, encodedLen]
  | e :: es, h => by
    obtain ⟨he, h'⟩ := List.forall_mem_cons.mp h
    have h1 := elem_bound e he
    have h2 := elems_bound es h'
    simp only [producedLen, encodedLen, List.map_cons, List.sum_cons] at *
    omega

/-- **The guard of the D34 repair never rejects a valid block**: a block of `hdr` length-prefix bytes followed by
valid elements decodes to at most 22 times its own size — in fact to less than 21.34 times. -/
theorem valid_block_within_guard (hdr : Nat) (es : List Elem) (hv : ∀ e ∈ es, e.Valid) :
    producedLen es ≤ 22 * (hdr + encodedLen es) := by
  have := elems_bound es hv
  omega

/-- … and the factor cannot be lowered to 21: copies with a 2-byte offset reach 64 : 3 (the stored seeded changes that
tighten the guard to 20 or 21 reject such blocks). -/
theorem replicate_copy2 (n : Nat) :
    producedLen (List.replicate n (Elem.copy2 64)) = 64 * n ∧ encodedLen (List.replicate n (Elem.copy2 64)) = 3 * n := by
  induction n with
  | zero => simp [producedLen, encodedLen]
  | succ n ih =>
    simp only [producedLen, encodedLen, List.replicate_succ, List.map_cons, List.sum_cons, Elem.produced, Elem.encoded] at *
    omega

example : (∀ e ∈ List.replicate 3000 (Elem.copy2 64), e.Valid) ∧
    ¬ producedLen (List.replicate 3000 (Elem.copy2 64)) ≤ 21 * (1 + encodedLen (List.replicate 3000 (Elem.copy2 64))) := by
  refine ⟨fun e he => ?_, ?_⟩
  · rw [List.eq_of_mem_replicate he]; exact ⟨by decide, by decide⟩
  · rw [(replicate_copy2 3000).1, (replicate_copy2 3000).2]; omega

end Avro.Snappy
