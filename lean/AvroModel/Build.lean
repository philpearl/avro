import AvroModel.Codec
import AvroModel.SchemaTypes
/-!
Model of codec construction (`build.go`: buildCodec and its helpers, nameForField, omitEmpty) and
of the library's registered builders (`time/time.go` buildTimeCodec, `null/null.go`).
-/
namespace Avro

mutual
/-- Go types as `reflect` shows them to the library. `int w`: signed integer kinds (Go `int` is 64);
`time`/`nullT`/`custom` are named types that can be keys of the codec registry. -/
inductive GoType where
  | bool | int (w : Nat) | uint (w : Nat) | float32 | float64 | complex | string
  | slice (elem : GoType)
  | array (n : Nat) (elem : GoType)
  | map (key val : GoType)
  | ptr (elem : GoType)
  | struct (name pkg : String) (fields : List GoField)
  | time
  | nullT (k : NullKind)
  | custom (id : Nat) (under : GoType)
  | iface | chan | func | unsafeptr
  /-- back-reference to a named type that is being defined (self-referential types cannot be written
  as finite trees); resolved through a type environment by `schemaForType` (SchemaGen.lean). For codec
  construction it is an unsupported kind. -/
  | ref (name : String)
/-- `reflect.StructField`: name, IsExported, `Tag.Get("json")`, `Tag.Get("bq")`, type -/
inductive GoField where
  | mk (name : String) (exported : Bool) (jsonTag bqTag : String) (type : GoType)
end

instance : Inhabited GoType := ⟨.bool⟩

def GoField.name : GoField → String | .mk n _ _ _ _ => n
def GoField.exported : GoField → Bool | .mk _ e _ _ _ => e
def GoField.jsonTag : GoField → String | .mk _ _ j _ _ => j
def GoField.bqTag : GoField → String | .mk _ _ _ b _ => b
def GoField.type : GoField → GoType | .mk _ _ _ _ t => t

/-- the comma-separated parts of a struct tag value (what repeated `strings.Cut(s, ",")` yields),
on character lists so that closed instances reduce in the kernel (`String.splitOn` does not) -/
def splitCommas : List Char → List (List Char)
  | [] => [[]]
  | c :: cs =>
    match splitCommas cs with
    | [] => [[]]
    | h :: t => if c == ',' then [] :: h :: t else (c :: h) :: t

/-- `nameForField` (build.go:254) -/
def nameForField (f : GoField) : String :=
  if !f.exported then "-"
  else if f.bqTag == "-" then "-"
  else
    let name := String.ofList ((splitCommas f.jsonTag.toList).headD [])
    if name == "-" then "-"
    else if name == "" then f.name
    else name

/-- `omitEmpty` (build.go:275) -/
def omitEmptyTag (jsonTag : String) : Bool :=
  ((splitCommas jsonTag.toList).drop 1).any (· == "omitempty".toList)

/-- the codec registry: the library's own registrations (time.Time, null.*) once
`RegisterCodecs` ran, and user registrations as predicates "builder accepts this schema". -/
structure Reg where
  lib : Bool
  custom : Nat → Option (Schema → Bool)

mutual
/-- zero value of a Go type -/
def zeroVal : GoType → GoVal
  | .bool => .bool false
  | .int _ => .int 0
  | .uint _ => .int 0
  | .float32 => .f32 0
  | .float64 => .f64 0
  | .string => .str []
  | .slice (.uint 8) => .bytes []
  | .slice _ => .slice []
  | .array n (.uint 8) => .fixed (List.replicate n 0)
  | .map _ _ => .map true [] []
  | .ptr _ => .ptr none
  | .struct _ _ fs => .struct (zeroFields fs)
  | .time => .time TimeVal.zero
  | .nullT k =>
    .nullw false (match k with
      | .int => .int 0 | .bool => .bool false | .double => .f64 0 | .float => .f64 0
      | .string => .str [] | .time => .time TimeVal.zero)
  | .custom _ u => zeroVal u
  | _ => .unit
def zeroFields : List GoField → List GoVal
  | [] => []
  | .mk _ _ _ _ t :: fs => zeroVal t :: zeroFields fs
end

/-- `ntf[name] = sf`: the *last* struct field with a given (non-"-") name wins; returns its index -/
def lookupField (name : String) : List GoField → Nat → Option (Nat × GoField) → Option (Nat × GoField)
  | [], _, acc => acc
  | f :: fs, i, acc =>
    if nameForField f != "-" && nameForField f == name then lookupField name fs (i + 1) (some (i, f))
    else lookupField name fs (i + 1) acc

def isPtr : GoType → Bool | .ptr _ => true | _ => false

/-- registered builders of the library: `buildTimeCodec` and the `null.*` builders -/
def buildTime (s : Schema) : Except String Codec :=
  if s.type == "string" then .ok .timeString
  else if s.type == "long" then
    let mult : Int := match s.object with
      | some o => if o.logicalType == "timestamp-micros" then 1000
                  else if o.logicalType == "timestamp-millis" then 1000000 else 1
      | none => 1
    .ok (.timeLong mult)
  else if s.type == "int" then
    match s.object with
    | some o => if o.logicalType == "date" then .ok .date else .error "time codec"
    | none => .error "time codec"
  else .error "time codec"

def buildNull (k : NullKind) (s : Schema) : Except String Codec :=
  match k with
  | .int => if s.type == "long" || s.type == "int" then .ok (.nullw .int) else .error "null.Int"
  | .bool => if s.type == "boolean" then .ok (.nullw .bool) else .error "null.Bool"
  | .double | .float =>
    if s.type == "double" then .ok (.nullw .double)
    else if s.type == "float" then .ok (.nullw .float) else .error "null.Float"
  | .string => if s.type == "string" then .ok (.nullw .string) else .error "null.String"
  | .time => if s.type == "string" then .ok (.nullw .time) else .error "null.Time"

/-- `registry[typ]` -/
def regLookup (reg : Reg) : GoType → Option (Schema → Except String Codec)
  | .time => if reg.lib then some buildTime else none
  | .nullT k => if reg.lib then some (buildNull k) else none
  | .custom id _ =>
    match reg.custom id with
    | some acc => some fun s => if acc s then .ok (.custom id) else .error "custom builder"
    | none => none
  | _ => none

def buildLong (typ : Option GoType) (oe : Bool) : Except String Codec :=
  match typ with
  | none => .ok (.int 64 oe)
  | some (.int 64) => .ok (.int 64 oe)
  | some (.int 32) => .ok (.int 32 oe)
  | some (.int 16) => .ok (.int 16 oe)
  | some (.custom _ (.int 64)) => .ok (.int 64 oe)
  | some (.custom _ (.int 32)) => .ok (.int 32 oe)
  | some (.custom _ (.int 16)) => .ok (.int 16 oe)
  | some _ => .error "long codec"

/-- the kind the `typ.Kind()` tests see: a named non-registered type shows its underlying kind -/
def GoType.strip : GoType → GoType
  | .custom _ u => u
  | t => t

mutual
/-- `buildCodec(schema, typ, omit)` (build.go:32): pointer unwrapping and the registry come first
(except for union and null schemas), then the switch on the schema type (`buildKind`).
`fuel` bounds the recursion depth. -/
def buildCodec (reg : Reg) : Nat → Schema → Option GoType → Bool → Except String Codec
  | 0, _, _, _ => .error "fuel"
  | fuel + 1, s, typ, oe =>
    if s.type != "union" && s.type != "null" then
      match typ with
      | some (.ptr e) =>
        -- buildPointerCodec
        match buildCodec reg fuel s (some e) false with
        | .ok c => .ok (.pointer c)
        | .error e => .error e
      | some t =>
        match regLookup reg t with
        | some builder => builder s
        | none => buildKind reg fuel s typ oe
      | none => buildKind reg fuel s typ oe
    else buildKind reg fuel s typ oe

/-- the `switch schema.Type` of buildCodec with the per-type builders inlined -/
def buildKind (reg : Reg) : Nat → Schema → Option GoType → Bool → Except String Codec
  | 0, _, _, _ => .error "fuel"
  | fuel + 1, s, typ, oe =>
      let k := typ.map GoType.strip
      if s.type == "null" then .ok .null
      else if s.type == "boolean" then
        match k with
        | none | some .bool => .ok (.bool oe)
        | _ => .error "boolean"
      else if s.type == "int" || s.type == "long" then buildLong k oe
      else if s.type == "float" then
        match k with
        | none | some .float32 => .ok (.float oe)
        | _ => .error "float"
      else if s.type == "double" then
        match k with
        | none | some .float64 => .ok (.double oe)
        | some .float32 => .ok (.f32double oe)
        | _ => .error "double"
      else if s.type == "bytes" then
        match k with
        | none | some (.slice (.uint 8)) => .ok (.bytes oe)
        | _ => .error "bytes"
      else if s.type == "string" then
        match k with
        | none | some .string => .ok (.string oe)
        | _ => .error "string"
      else if s.type == "record" then
        match s.object with
        | none => .error "record schema does not have object"
        | some o =>
          match k with
          | none =>
            match buildFields reg fuel o.fields none with
            | .ok (cs, ts) => .ok (.record [] cs ts)
            | .error e => .error e
          | some (.struct _ _ gfs) =>
            match buildFields reg fuel o.fields (some gfs) with
            | .ok (cs, ts) => .ok (.record (zeroFields gfs) cs ts)
            | .error e => .error e
          | some .time | some (.nullT _) =>
            -- unregistered library types are plain structs with no exported matching fields
            match buildFields reg fuel o.fields (some []) with
            | .ok (cs, ts) => .ok (.record [] cs ts)
            | .error e => .error e
          | _ => .error "record"
      else if s.type == "enum" then .error "enum not currently supported"
      else if s.type == "array" then
        match s.object with
        | none => .error "array schema does not have object"
        | some o =>
          match k with
          | none =>
            match buildCodec reg fuel o.items none false with
            | .ok c => .ok (.array c oe)
            | .error e => .error e
          | some (.slice e) =>
            match buildCodec reg fuel o.items (some e) false with
            | .ok c => .ok (.array c oe)
            | .error e => .error e
          | _ => .error "array"
      else if s.type == "map" then
        match s.object with
        | none => .error "map schema does not have object"
        | some o =>
          match k with
          | none =>
            match buildCodec reg fuel o.values none false with
            | .ok c => .ok (.map c oe)
            | .error e => .error e
          | some (.map key v) =>
            if key.strip matches .string then
              match buildCodec reg fuel o.values (some v) false with
              | .ok c => .ok (.map c oe)
              | .error e => .error e
            else .error "map key"
          | _ => .error "map"
      else if s.type == "union" then buildUnion reg fuel s.union typ oe
      else if s.type == "fixed" then
        match s.object with
        | none => .error "fixed schema does not have object"
        | some o =>
          match k with
          | none => .ok (.fixed o.size)
          | some (.array n (.uint 8)) => if (n : Int) = o.size then .ok (.fixed o.size) else .error "fixed size"
          | _ => .error "fixed"
      else .error "not currently supported"

/-- `buildUnionCodec` (build.go:219) -/
def buildUnion (reg : Reg) : Nat → List Schema → Option GoType → Bool → Except String Codec
  | 0, _, _, _ => .error "fuel"
  | fuel + 1, branches, typ, oe =>
    let nullable : Option (Nat × Schema) :=
      match branches with
      | [a, b] =>
        if a.type == "null" then some (1, b)
        else if b.type == "null" then some (0, a)
        else none
      | _ => none
    match nullable with
    | some (nonNull, u) =>
      match buildCodec reg fuel u typ oe with
      | .ok (.string o) => .ok (.unionNullString o nonNull)
      | .ok c => .ok (.unionOne c nonNull)
      | .error e => .error e
    | none =>
      match buildBranches reg fuel branches typ oe with
      | .ok cs => .ok (.union cs)
      | .error e => .error e

def buildBranches (reg : Reg) : Nat → List Schema → Option GoType → Bool → Except String (List Codec)
  | 0, _, _, _ => .error "fuel"
  | _ + 1, [], _, _ => .ok []
  | fuel + 1, b :: bs, typ, oe =>
    match buildCodec reg fuel b typ oe, buildBranches reg fuel bs typ oe with
    | .ok c, .ok cs => .ok (c :: cs)
    | .error e, _ => .error e
    | _, .error e => .error e

/-- the field loop of `buildRecordCodec` (build.go:316): the schema is in the driving seat -/
def buildFields (reg : Reg) : Nat → List SchemaField → Option (List GoField) → Except String (List Codec × List (Option Nat))
  | 0, _, _ => .error "fuel"
  | _ + 1, [], _ => .ok ([], [])
  | fuel + 1, sf :: sfs, gfs =>
    let found : Option (Nat × GoField) :=
      match gfs with
      | some fs => lookupField sf.name fs 0 none
      | none => none
    let built := match found with
      | some (_, gf) => buildCodec reg fuel sf.type (some gf.type) (omitEmptyTag gf.jsonTag)
      | none => buildCodec reg fuel sf.type none false
    match built, buildFields reg fuel sfs gfs with
    | .ok c, .ok (cs, ts) => .ok (c :: cs, (found.map (·.1)) :: ts)
    | .error e, _ => .error e
    | _, .error e => .error e
end

end Avro
