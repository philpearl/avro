import AvroModel.Build
/-!
Typing of codec trees against Go types (properties C05 and C11).

The codec model (`Codec.lean`) works on abstract Go values, so a store of the wrong width or
through a pointer of the wrong pointee shape cannot be seen there directly.  This file adds the
missing level:

* `HasType v T`   — which abstract values inhabit which Go type (an `int16` field holds an
                    integer in the 16-bit range, a `[4]byte` field four bytes, …);
* `wt c T`        — every load/store codec `c` performs through a pointer `p : *T` fits `T`:
                    the store width of an integer codec *equals* the size of the field
                    (`IntCodec[T].Read` does `*(*T)(p) = T(i)`, int.go:20), `fixedCodec` copies
                    exactly `len([n]byte)` bytes (fixed.go:18), `recordCodec.Read` adds offsets of
                    fields of this very struct (record.go:31), `arrayCodec` steps by the size of
                    the slice's own element type (array.go:49), `MapCodec` assigns values of the
                    map's own element type (map.go:54), `PointerCodec` stores a pointer to a
                    pointee of the pointer's element type (pointer.go:15);
* `allocs c`      — `c.New` returns a non-nil pointer (null.go:21 returns nil; unions delegate);
* `allocOK c`     — every codec in an element position (array item, map value, pointer target)
                    allocates.  The library copes with one that does not (`MapCodec.Read` stores a
                    fresh zero element when `valueCodec.New` returns nil, map.go:49-54); the value model
                    has no typed zero for such a codec (`Codec.zero .null = .unit`).

`Props/C05.lean` proves that `buildCodec` only produces `wt` codecs, that `wt` codecs never get
`stuck` and deliver values of the destination's type, and that the mismatched pairs the property
lists are build errors.
-/
namespace Avro

/-- `typ.Elem().Kind() == reflect.Uint8` for the element types the model distinguishes -/
def isU8 : GoType → Bool
  | .uint 8 => true
  | _ => false

mutual
/-- Go types in which a named (`custom`) type is never a name for another named type or for one of
the library's registered struct types (`type T time.Time` is, for the library, a struct without
exported fields; the abstract values have no separate form for it).  On such types `GoType.strip`
reaches the kind in one step. -/
def GoType.wf : GoType → Bool
  | .slice e => e.wf
  | .array _ e => e.wf
  | .map k v => k.wf && v.wf
  | .ptr e => e.wf
  | .struct _ _ fs => wfFields fs
  | .custom _ u => (match u with | .custom _ _ | .time | .nullT _ => false | _ => true) && u.wf
  | _ => true
def wfFields : List GoField → Bool
  | [] => true
  | .mk _ _ _ _ t :: fs => t.wf && wfFields fs
end

/-- the library's registered types -/
def libType (t : GoType) : Bool :=
  match t.strip with
  | .time | .nullT _ => true
  | _ => false

/-- `typ.Key().Kind() == reflect.String` -/
def isStringKey (t : GoType) : Bool :=
  match t.strip with
  | .string => true
  | _ => false

/-- payload of a `null.*` wrapper of kind `k` -/
def nullInnerOK : NullKind → GoVal → Bool
  | .int, .int v => decide (inRange 64 v)
  | .bool, .bool _ => true
  | .double, .f64 _ => true
  | .float, .f64 _ => true
  | .string, .str _ => true
  | .time, .time _ => true
  | _, _ => false

mutual
/-- `hasTy T v`: abstract value `v` is a value of Go type `T`.  Types the library cannot decode
into (complex, interfaces, channels, functions, arrays of anything but bytes) have the single
opaque inhabitant `.unit`; that is also what `zeroVal` gives for them. -/
def hasTy : GoType → GoVal → Bool
  | .bool, v => match v with | .bool _ => true | _ => false
  | .int w, v => match v with | .int i => decide (inRange w i) | _ => false
  | .uint w, v => match v with | .int i => decide (0 ≤ i ∧ i < 2 ^ w) | _ => false
  | .float32, v => match v with | .f32 _ => true | _ => false
  | .float64, v => match v with | .f64 _ => true | _ => false
  | .string, v => match v with | .str _ => true | _ => false
  | .slice e, v =>
    match v with
    | .bytes _ => isU8 e
    | .slice items => !isU8 e && items.all (hasTy e)
    | _ => false
  | .array n e, v =>
    match v with
    | .fixed bs => isU8 e && bs.length == n
    | .unit => !isU8 e
    | _ => false
  | .map k e, v =>
    match v with
    | .map _ ks vs => (isStringKey k || ks.isEmpty) && ks.length == vs.length && vs.all (hasTy e)
    | _ => false
  | .ptr e, v =>
    match v with
    | .ptr none => true
    | .ptr (some x) => hasTy e x
    | _ => false
  | .struct _ _ fs, v => match v with | .struct vs => hasTyFields fs vs | _ => false
  | .time, v => match v with | .time _ => true | _ => false
  | .nullT k, v => match v with | .nullw _ inner => nullInnerOK k inner | _ => false
  | .custom _ u, v => hasTy u v
  | .complex, v | .iface, v | .chan, v | .func, v | .unsafeptr, v | .ref _, v =>
    match v with | .unit => true | _ => false
/-- field-wise -/
def hasTyFields : List GoField → List GoVal → Bool
  | [], vs => match vs with | [] => true | _ => false
  | .mk _ _ _ _ t :: fs, vs =>
    match vs with
    | v :: vs' => hasTy t v && hasTyFields fs vs'
    | [] => false
end

/-- `HasType v T`: value `v` inhabits Go type `T` -/
def HasType (v : GoVal) (T : GoType) : Bool := hasTy T v

mutual
/-- `wt c T`: the loads and stores of codec `c` through `p : *T` fit `T`.  Kinds are tested on
`T.strip` as `typ.Kind()` does for a named type.  `.null` fits everything (`nullCodec.Read` does
not touch `p`); codecs built without a Go type (`targets[i] = none`) are only ever used through
`Skip` and carry no requirement; user-registered codecs are outside the judgement. -/
def wt : Codec → GoType → Bool
  | .null, _ => true
  | .bool _, t => match t.strip with | .bool => true | _ => false
  | .int w _, t => match t.strip with | .int w' => w == w' | _ => false
  | .float _, t => match t.strip with | .float32 => true | _ => false
  | .double _, t => match t.strip with | .float64 => true | _ => false
  | .f32double _, t => match t.strip with | .float32 => true | _ => false
  | .bytes _, t => match t.strip with | .slice e => isU8 e | _ => false
  | .string _, t => match t.strip with | .string => true | _ => false
  | .fixed n, t => match t.strip with | .array m e => isU8 e && (m : Int) == n | _ => false
  | .array item _, t => match t.strip with | .slice e => !isU8 e && wt item e | _ => false
  | .map val _, t => match t.strip with | .map k e => isStringKey k && wt val e | _ => false
  | .pointer c, t => match t.strip with | .ptr e => wt c e | _ => false
  | .record zero cs ts, t =>
    match t.strip with
    | .struct _ _ fs => hasTyFields fs zero && wtFields cs ts fs
    | _ => false
  | .union cs, t => wtAll cs t
  | .unionOne c _, t => wt c t
  | .unionNullString _ _, t => match t.strip with | .string => true | _ => false
  | .timeString, t | .timeLong _, t | .date, t => match t.strip with | .time => true | _ => false
  | .nullw k, t =>
    match t.strip with
    | .nullT k' =>
      -- `null.Float` serves both the float and the double codec
      k == k' || (k == .float && k' == .double) || (k == .double && k' == .float)
    | _ => false
  | .custom _, _ => false
/-- every field with a target: the index is a field of this struct and the codec fits its type -/
def wtFields : List Codec → List (Option Nat) → List GoField → Bool
  | [], _, _ => true
  | _ :: _, [], _ => false
  | _ :: cs, none :: ts, fs => wtFields cs ts fs
  | c :: cs, some i :: ts, fs =>
    (match fs[i]? with
     | some f => wt c f.type
     | none => false) && wtFields cs ts fs
/-- all branches of a general union decode into the same `p` -/
def wtAll : List Codec → GoType → Bool
  | [], _ => true
  | c :: cs, t => wt c t && wtAll cs t
end

mutual
/-- `c.New(r) != nil`.  For a general union this follows `zeroUnion` (first branch that is not the
null codec). -/
def allocs : Codec → Bool
  | .null => false
  | .union cs => allocsU cs
  | .unionOne c _ => allocs c
  | _ => true
def allocsU : List Codec → Bool
  | [] => false
  | .null :: cs => allocsU cs
  | c :: _ => allocs c
end

mutual
/-- every codec in an element position allocates its element -/
def allocOK : Codec → Bool
  | .array item _ => allocs item && allocOK item
  | .map val _ => allocs val && allocOK val
  | .pointer c => allocs c && allocOK c
  | .record _ cs ts => allocOKFields cs ts
  | .union cs => allocOKAll cs
  | .unionOne c _ => allocOK c
  | _ => true
def allocOKFields : List Codec → List (Option Nat) → Bool
  | [], _ => true
  | _ :: _, [] => true
  | _ :: cs, none :: ts => allocOKFields cs ts
  | c :: cs, some _ :: ts => allocOK c && allocOKFields cs ts
def allocOKAll : List Codec → Bool
  | [] => true
  | c :: cs => allocOK c && allocOKAll cs
end

end Avro
