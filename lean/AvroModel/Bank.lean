/-!
# Bank — state-machine model of `ResourceBank`, `resourceBankPool` and the handles they issue

Mirrors `/repo/buffer.go`:

* `Arena`            = `resourceType` (buffer.go:149): per-type arena with `array`, `cap`, `len`
* `SData`            = `ResourceBank.sData` (buffer.go:172): the string arena, a Go byte slice
* `BankSt`           = `ResourceBank` (buffer.go:168) + two ghost fields (`epoch`, `pooled`)
* `findArena`/`updArena` = `findTyp` (buffer.go:207): linear search, append when absent
* `allocStep`        = `ResourceBank.Alloc` (buffer.go:181) reached through `ReadBuf.Alloc` (buffer.go:97)
* `toStringStep`     = `ResourceBank.ToString` (buffer.go:242) reached through `ReadBuf.NextAsString` (buffer.go:88)
* `closeStep`        = `ResourceBank.Close` (buffer.go:226)
* `getStep`          = `newResourceBank` (buffer.go:175) = `resourceBankPool.Get()`, used by `NewReadBuf`,
                       `Reset` (when `rb == nil`) and `ExtractResourceBank` (buffer.go:68)
* `storeStep`        = a write of the user (or of a codec) through a pointer obtained from `Alloc`

`ReadBuf.ExtractResourceBank` (buffer.go:68-72) hands the current bank to the caller and does a `get` for
the buffer; `ReadFile` (file.go:186-199) does, per record, a number of `alloc` / `toString` / `store` on
the buffer's bank followed by that hand-over — so every history of `ReadFile` with any callback that
respects the contract is one of the operation sequences quantified over here.

Memory is a heap `array id ↦ index ↦ cell value`; a fresh allocation (`unsafe_NewArray`, `append`
growing) gets an array id never used before — Go's allocator returns memory disjoint from every
reachable object, and every array a handle points into stays reachable through that handle. Typed
arrays and byte arrays live in two id spaces (`mem`, `smem`): they are different Go allocations.
One cell of a typed array stands for one whole element (`size` bytes); value `0` = all bytes zero.

Ghost state (not in the Go code, used to *state* the property): `epoch` counts the `Close` calls
a bank has seen, `pooled` says that the bank currently sits in `resourceBankPool`, `issued` /
`sissued` remember every handle ever handed out, each tagged with (bank, epoch at issue). A handle
is *live* while its bank has not been closed since the handle was issued.

Where the Go code would dereference nil or write outside its array (only possible if the arena
bookkeeping were inconsistent) the model yields `Out.fault`; `Props/C10.lean` proves that this never
happens.
-/
namespace Avro.Bank

/-- `resourceType` (buffer.go:149-160). `arr = none` is the nil `array` of a just-appended entry. -/
structure Arena where
  typ : Nat
  arr : Option Nat
  cap : Nat
  len : Nat
  deriving Repr, DecidableEq

/-- the entry `findTyp` appends (buffer.go:218): only `ptyp` and `size` set -/
def Arena.new (τ : Nat) : Arena := ⟨τ, none, 0, 0⟩

/-- `ResourceBank.sData`: a Go `[]byte` (nil slice = `arr none`, len 0, cap 0) -/
structure SData where
  arr : Option Nat
  len : Nat
  cap : Nat
  deriving Repr, DecidableEq

/-- `ResourceBank` plus ghost `epoch` (number of `Close` calls so far) and `pooled` (is in the pool) -/
structure BankSt where
  arenas : List Arena
  sdata : SData
  epoch : Nat
  pooled : Bool
  deriving Repr

/-- `&ResourceBank{}` made by `resourceBankPool.New` (buffer.go:145) -/
def BankSt.fresh : BankSt := ⟨[], ⟨none, 0, 0⟩, 0, false⟩

/-- a pointer returned by `Alloc`: cell `idx` of typed array `arr`, issued by `bank` in `epoch` -/
structure Handle where
  bank : Nat
  epoch : Nat
  arr : Nat
  idx : Nat
  deriving Repr, DecidableEq

/-- a string returned by `ToString`: bytes `[start, start+len)` of byte array `arr`
(`none`: the nil data pointer of an empty string cut from a nil `sData`) -/
structure SHandle where
  bank : Nat
  epoch : Nat
  arr : Option Nat
  start : Nat
  len : Nat
  deriving Repr, DecidableEq

structure World where
  banks : Nat → BankSt
  nbanks : Nat
  /-- next unused typed-array id / byte-array id (the allocator) -/
  nextArr : Nat
  nextSArr : Nat
  mem : Nat → Nat → Nat
  smem : Nat → Nat → Nat
  /-- ghost: all handles handed out so far, newest first -/
  issued : List Handle
  sissued : List SHandle

def init : World :=
  { banks := fun _ => BankSt.fresh, nbanks := 0, nextArr := 0, nextSArr := 0,
    mem := fun _ _ => 0, smem := fun _ _ => 0, issued := [], sissued := [] }

def upd {α : Type} (f : Nat → α) (i : Nat) (v : α) : Nat → α := fun j => if j = i then v else f j

def upd2 (m : Nat → Nat → Nat) (a i v : Nat) : Nat → Nat → Nat :=
  fun a' i' => if a' = a ∧ i' = i then v else m a' i'

/-- write `bs` at offsets `off, off+1, …` of byte array `a` -/
def writeAt (m : Nat → Nat → Nat) (a off : Nat) (bs : List Nat) : Nat → Nat → Nat :=
  fun a' i => if a' = a ∧ off ≤ i ∧ i < off + bs.length then bs.getD (i - off) 0 else m a' i

/-- a fresh byte array `a` whose first `n` bytes are copied from `src` (nothing to copy from nil) -/
def copyInto (m : Nat → Nat → Nat) (a : Nat) (src : Option Nat) (n : Nat) : Nat → Nat → Nat :=
  fun a' i => if a' = a then (match src with | some o => if i < n then m o i else 0 | none => 0) else m a' i

/-- `findTyp` (buffer.go:207), the lookup half: first arena of type `τ`; when there is none the Go code
appends `Arena.new τ` and returns a pointer to it. -/
def findArena (τ : Nat) : List Arena → Arena
  | [] => Arena.new τ
  | a :: as => if a.typ = τ then a else findArena τ as

/-- `findTyp` + mutation through the returned pointer: apply `f` to the first arena of type `τ`,
appending a new entry first when there is none. -/
def updArena (τ : Nat) (f : Arena → Arena) : List Arena → List Arena
  | [] => [f (Arena.new τ)]
  | a :: as => if a.typ = τ then f a :: as else a :: updArena τ f as

/-- buffer.go:185-188: `newCap := rt.cap * 2; if newCap < 16 { newCap = 16 }` — the growth policy of the code. -/
def goNewCap (cap : Nat) : Nat := if cap * 2 < 16 then 16 else cap * 2

theorem goNewCap_gt (cap : Nat) : cap < goNewCap cap := by unfold goNewCap; split <;> omega

/-- buffer.go:184-196: `if rt.len == rt.cap { …; rt.array = unsafe_NewArray(rt.ptyp, newCap); rt.cap = newCap }`.
The old array is not copied and not freed; `len` is left alone. `fresh` = id of the new array, `nc` = `newCap`.
The growth policy is a parameter of the operation (`Op.alloc _ _ newCap`): the code uses `goNewCap cap`, the
theorems hold for every `newCap` above the old capacity (`Allowed`), so they do not depend on the policy. -/
def Arena.grow (a : Arena) (fresh nc : Nat) : Arena :=
  if a.len = a.cap then { a with arr := some fresh, cap := nc } else a

/-- buffer.go:198-199: `i := rt.len; rt.len++` after the possible growth -/
def Arena.take (a : Arena) (fresh nc : Nat) : Arena :=
  { a.grow fresh nc with len := (a.grow fresh nc).len + 1 }

inductive Op where
  /-- `newResourceBank()`: `none` = the pool makes a brand-new bank, `some b` = it returns pooled bank `b` -/
  | get (choice : Option Nat)
  /-- `newCap` = capacity of the array `Alloc` makes if the arena is full (only looked at in that case) -/
  | alloc (b τ : Nat) (newCap : Nat)
  /-- `grow` = capacity Go's `append` picks if it has to reallocate (only looked at in that case) -/
  | toString (b : Nat) (bytes : List Nat) (grow : Nat)
  | store (h : Handle) (v : Nat)
  | close (b : Nat)
  deriving Repr, DecidableEq

inductive Ret where
  | unit
  | bank (b : Nat)
  | ptr (h : Handle)
  | str (s : SHandle)
  deriving Repr, DecidableEq

inductive Out where
  | ok (w : World) (r : Ret)
  | fault (why : String)

/-- `resourceBankPool.Get()` -/
def getStep (w : World) : Option Nat → Out
  | none => .ok { w with banks := upd w.banks w.nbanks BankSt.fresh, nbanks := w.nbanks + 1 } (.bank w.nbanks)
  | some b => .ok { w with banks := upd w.banks b { w.banks b with pooled := false } } (.bank b)

/-- `ResourceBank.Alloc` (buffer.go:181-206) -/
def allocStep (w : World) (b τ nc : Nat) : Out :=
  let bk := w.banks b
  let a0 := findArena τ bk.arenas
  let a1 := a0.grow w.nextArr nc
  match a1.arr with
  | none => .fault "Alloc: nil array with spare capacity"
  | some x =>
    if a1.len < a1.cap then
      let h : Handle := ⟨b, bk.epoch, x, a1.len⟩
      .ok { w with
            banks := upd w.banks b { bk with arenas := updArena τ (fun a => a.take w.nextArr nc) bk.arenas }
            nextArr := if a0.len = a0.cap then w.nextArr + 1 else w.nextArr
            -- typedmemclr(rt.ptyp, ptr), buffer.go:203
            mem := upd2 w.mem x a1.len 0
            issued := h :: w.issued } (.ptr h)
    else .fault "Alloc: cell outside the array"

/-- `ResourceBank.ToString` (buffer.go:242-249): `start := len(sData); sData = append(sData, in...); out := sData[start:]` -/
def toStringStep (w : World) (b : Nat) (bytes : List Nat) (g : Nat) : Out :=
  let bk := w.banks b
  let s := bk.sdata
  let n := bytes.length
  if s.len + n ≤ s.cap then
    -- append in place
    match s.arr with
    | none =>
      if n = 0 then
        let h : SHandle := ⟨b, bk.epoch, none, s.len, 0⟩
        .ok { w with sissued := h :: w.sissued } (.str h)
      else .fault "ToString: nil sData with capacity"
    | some x =>
      let h : SHandle := ⟨b, bk.epoch, some x, s.len, n⟩
      .ok { w with
            banks := upd w.banks b { bk with sdata := { s with len := s.len + n } }
            smem := writeAt w.smem x s.len bytes
            sissued := h :: w.sissued } (.str h)
  else
    -- append reallocates: fresh array of capacity g, old contents copied, old array untouched
    let x := w.nextSArr
    let h : SHandle := ⟨b, bk.epoch, some x, s.len, n⟩
    .ok { w with
          banks := upd w.banks b { bk with sdata := ⟨some x, s.len + n, g⟩ }
          nextSArr := x + 1
          smem := writeAt (copyInto w.smem x s.arr s.len) x s.len bytes
          sissued := h :: w.sissued } (.str h)

/-- `ResourceBank.Close` (buffer.go:226-238): every `len` := 0, `sData = sData[:0]` (same arrays), `Put` -/
def closeStep (w : World) (b : Nat) : Out :=
  let bk := w.banks b
  let bk' : BankSt :=
    { arenas := bk.arenas.map (fun a => { a with len := 0 })
      sdata := { bk.sdata with len := 0 }
      epoch := bk.epoch + 1
      pooled := true }
  .ok { w with banks := upd w.banks b bk' } .unit

def storeStep (w : World) (h : Handle) (v : Nat) : Out :=
  .ok { w with mem := upd2 w.mem h.arr h.idx v } .unit

def step (w : World) : Op → Out
  | .get c => getStep w c
  | .alloc b τ nc => allocStep w b τ nc
  | .toString b bs g => toStringStep w b bs g
  | .store h v => storeStep w h v
  | .close b => closeStep w b

/-- the bank of the handle has not been closed since the handle was issued -/
def World.Live (w : World) (h : Handle) : Prop := (w.banks h.bank).epoch = h.epoch
def World.SLive (w : World) (s : SHandle) : Prop := (w.banks s.bank).epoch = s.epoch

instance (w : World) (h : Handle) : Decidable (w.Live h) := by unfold World.Live; infer_instance
instance (w : World) (s : SHandle) : Decidable (w.SLive s) := by unfold World.SLive; infer_instance

def World.read (w : World) (h : Handle) : Nat := w.mem h.arr h.idx

/-- the bytes a string handle denotes -/
def World.sread (w : World) (s : SHandle) : List Nat :=
  match s.arr with
  | none => []
  | some x => (List.range s.len).map fun i => w.smem x (s.start + i)

/-- The documented ownership discipline (doc comments at buffer.go:85-87, 162-167, 179-180, 225, 240-241) plus the
contracts of the two runtime services the bank relies on:
* a bank is used (`alloc`, `toString`) and closed only while the caller holds it, i.e. after the pool
  handed it out and before its `Close` — so it is closed at most once per acquisition;
* writes go through handles that are still live;
* `sync.Pool.Get` returns a new object or one that was `Put` and not yet handed out again;
* `append` reallocates to a capacity that holds the result; `Alloc` grows to a capacity above the old one. -/
def Allowed (w : World) : Op → Prop
  | .get none => True
  | .get (some b) => b < w.nbanks ∧ (w.banks b).pooled = true
  | .alloc b τ nc => b < w.nbanks ∧ (w.banks b).pooled = false ∧
      ((findArena τ (w.banks b).arenas).len = (findArena τ (w.banks b).arenas).cap → (findArena τ (w.banks b).arenas).cap < nc)
  | .toString b bytes g => b < w.nbanks ∧ (w.banks b).pooled = false ∧ (w.banks b).sdata.len + bytes.length ≤ g
  | .store h _ => h ∈ w.issued ∧ w.Live h
  | .close b => b < w.nbanks ∧ (w.banks b).pooled = false

instance (w : World) (op : Op) : Decidable (Allowed w op) := by
  cases op with
  | get c => cases c <;> (unfold Allowed; infer_instance)
  | alloc b τ nc => unfold Allowed; infer_instance
  | toString b bs g => unfold Allowed; infer_instance
  | store h v => unfold Allowed; infer_instance
  | close b => unfold Allowed; infer_instance

/-- run a sequence; `none` if some step faults -/
def run : World → List Op → Option World
  | w, [] => some w
  | w, op :: ops =>
    match step w op with
    | .ok w' _ => run w' ops
    | .fault _ => none

/-- every operation of the sequence is allowed in the state it is applied to -/
def Disciplined : World → List Op → Prop
  | _, [] => True
  | w, op :: ops =>
    Allowed w op ∧
    match step w op with
    | .ok w' _ => Disciplined w' ops
    | .fault _ => True

/-- executable version used by the driver and by the closed examples: runs the sequence checking `Allowed`
before every step; returns the final world and the results, or the index of the first operation that is
not allowed / faults. -/
def runChecked : World → List Op → Except Nat (World × List Ret)
  | w, [] => .ok (w, [])
  | w, op :: ops =>
    if Allowed w op then
      match step w op with
      | .ok w' r =>
        match runChecked w' ops with
        | .ok (w'', rs) => .ok (w'', r :: rs)
        | .error i => .error (i + 1)
      | .fault _ => .error 0
    else .error 0

/-! ## Provenance of decoded data

Where the memory reachable from a decoded record comes from, codec by codec, as written in the `Read`
and `New` methods of `/repo` (the record struct itself is `p` in `ReadFile`, file.go:157/188, cleared and
reused per record — the callback contract is to copy it). The decoders *look at* the block buffer through
`ReadBuf.Next` (bytes.go:19, fixed.go:25, time/time.go:110) but every one of them copies or parses before
returning. -/

inductive Prov where
  /-- a `ResourceBank` arena: a cell from `Alloc` or bytes from `ToString` -/
  | bank
  /-- a fresh Go heap object owned by the record alone (`make`, `unsafe_NewArray`, `reflect.MakeMap`) -/
  | freshHeap
  /-- the `compressed` / `uncompressed` block buffers of `ReadFile` (file.go:160-186), reused for every block -/
  | blockBuffer
  /-- memory of the caller's reader / input bytes -/
  | input
  deriving Repr, DecidableEq

/-- a codec tree, as far as memory is concerned -/
inductive PCodec where
  /-- bool, int, long, float, double, date, timestamps, null: written in place, nothing retained
  (`time.Time` is parsed from a transient view, time/time.go:115) -/
  | prim
  /-- fixed.go:18-28: `copy` into the destination array in place -/
  | fixed
  /-- string.go:21: `r.NextAsString` → `ResourceBank.ToString` -/
  | string
  /-- bytes.go:24-26: `make([]byte, l)`; `copy` -/
  | bytes
  /-- array.go:118: backing array from `unsafe_NewArray` (old contents copied on resize) -/
  | array (item : PCodec)
  /-- map.go:19 `reflect.MakeMap`; keys via `StringCodec.Read` (map.go:44); value cell `valueCodec.New`
  (map.go:49) then copied into the map by `mapassign` -/
  | map (value : PCodec)
  /-- pointer.go:14: target from `c.Codec.New(r)` -/
  | pointer (elem : PCodec)
  /-- record.go: fields decoded in place one after the other; union.go: one branch decoded in place -/
  | seq (a b : PCodec)
  deriving Repr

/-- what `Codec.New` returns for a codec (the `New` methods: all `r.Alloc(..)` except fixed.go:35) -/
def PCodec.newProv : PCodec → Prov
  | .fixed => .freshHeap
  | _ => .bank

/-- provenance of every piece of memory reachable from a value decoded by the codec -/
def PCodec.reach : PCodec → List Prov
  | .prim => []
  | .fixed => []
  | .string => [.bank]
  | .bytes => [.freshHeap]
  | .array c => .freshHeap :: c.reach
  | .map c => .freshHeap :: .bank :: c.newProv :: c.reach
  | .pointer c => c.newProv :: c.reach
  | .seq a b => a.reach ++ b.reach

end Avro.Bank
